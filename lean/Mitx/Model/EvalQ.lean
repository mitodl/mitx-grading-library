import Mitx.Parser.Usage
import Mitx.Parser.Sem
import Mitx.Parser.Lex
/-! Executable interpretation of parse trees over exact rationals: the concrete instance of the operator
algebra `Alg` used by the correspondence with `evaluator(...)`. Everything the real evaluator does in
floating point that is not a rational function of its operands (non-integer powers, arrays, named numpy
functions) is `oom` (outside the model) and is never compared. Also `check_scope`. Core Lean only. -/
namespace EvQ
open C03

inductive QV
  | val (q : Rat)
  | err (k : String)      -- "divzero" | "oom" | "undef-var" | "undef-func" | "suffix" | "arity"
  deriving Repr, Inhabited

def QV.bind (x : QV) (f : Rat → QV) : QV := match x with | .val q => f q | .err k => .err k
def QV.bind2 (x y : QV) (f : Rat → Rat → QV) : QV := x.bind (fun a => y.bind (fun b => f a b))

def digitsVal (cs : List Char) : Nat := cs.foldl (fun a c => 10 * a + (c.toNat - '0'.toNat)) 0

def pow10 (e : Int) : Rat := if e ≥ 0 then ((10 ^ e.toNat : Nat) : Rat) else 1 / ((10 ^ (-e).toNat : Nat) : Rat)

/-- value of a number literal as the lexer normalises it: `ddd[.ddd][E[+-]ddd]` -/
def numVal (txt : String) : Rat :=
  let cs := txt.toList
  let (mant, ex) := (cs.takeWhile (· != 'E'), (cs.dropWhile (· != 'E')).drop 1)
  let ip := mant.takeWhile (· != '.')
  let fp := (mant.dropWhile (· != '.')).drop 1
  let m : Rat := (digitsVal ip : Rat) + (digitsVal fp : Rat) / ((10 ^ fp.length : Nat) : Rat)
  let e : Int := match ex with
    | '-' :: d => - (digitsVal d : Int)
    | '+' :: d => (digitsVal d : Int)
    | d => (digitsVal d : Int)
  m * pow10 e

def ratPow (b : Rat) (e : Int) : QV :=
  if e.natAbs > 64 then .err "oom"
  else if e ≥ 0 then .val (b ^ e.toNat)
  else if b = 0 then .err "divzero" else .val (1 / (b ^ (-e).toNat))

structure Env where
  vars : List (String × Rat)
  sufs : List (String × Rat)

/-- three fixed author functions used by the harness (registered identically on the Python side) -/
def callFn (f : String) (xs : List Rat) : QV :=
  match f, xs with
  | "f1", [x] => .val (2 * x + 1)
  | "g2", [x, y] => .val (x - 3 * y)
  | "h3", [x, y, z] => .val (x + 2 * y + 4 * z)
  | "f1", _ => .err "arity" | "g2", _ => .err "arity" | "h3", _ => .err "arity"
  | _, _ => .err "oom"

def seqQV : List QV → Except String (List Rat)
  | [] => .ok []
  | .val q :: r => (seqQV r).map (q :: ·)
  | .err k :: _ => .error k

def alg (env : Env) : Alg QV where
  num txt suf := match suf with
    | none => .val (numVal txt)
    | some s => match env.sufs.lookup s with
      | some m => .val (numVal txt * m)
      | none => .err "suffix"
  var s := match env.vars.lookup s with | some v => .val v | none => .err "undef-var"
  call f xs := match seqQV xs with | .ok l => callFn f l | .error k => .err k
  arr _ := .err "oom"
  add a b := a.bind2 b (fun x y => .val (x + y))
  sub a b := a.bind2 b (fun x y => .val (x - y))
  mul a b := a.bind2 b (fun x y => .val (x * y))
  div a b := a.bind2 b (fun x y => if y = 0 then .err "divzero" else .val (x / y))
  pow a b := a.bind2 b (fun x y => if y.den = 1 then ratPow x y.num else .err "oom")
  neg a := a.bind (fun x => .val (-x))
  par xs := match seqQV xs with
    | .error k => .err k
    | .ok l => if l.any (· == 0) then .val 0 else
        let s := (l.map (fun x => 1 / x)).foldl (· + ·) 0
        if s = 0 then .err "divzero" else .val (1 / s)

def knownFns : List String := ["f1", "g2", "h3"]

/-- `check_scope` then `eval` -/
def evalChecked (env : Env) (t : T) (sc : Sc) : QV :=
  if sc.any (fun p => p.1 == Kind.var && (env.vars.lookup p.2).isNone) then .err "undef-var"
  else if sc.any (fun p => p.1 == Kind.func && !knownFns.contains p.2) then .err "undef-func"
  else if sc.any (fun p => p.1 == Kind.suf && (env.sufs.lookup p.2).isNone) then .err "suffix"
  else evalT (alg env) t

end EvQ
