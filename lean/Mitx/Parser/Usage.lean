import Mitx.Parser.Syntax
/-! Side-effecting version of the parser: parse actions add names to a scratch list whenever the
    corresponding element matches — also inside alternatives and repetitions that are later abandoned
    (the scratch is never rolled back, exactly like `MathParser.variables_used` during a pyparsing run). -/
namespace C03

inductive Kind | var | func | suf deriving DecidableEq, Repr
abbrev Sc := List (Kind × String)
abbrev QRes (α : Type) := Option (α × List Tok) × Sc

def addSuf (sc : Sc) : Option String → Sc
  | none => sc
  | some s => sc ++ [(Kind.suf, s)]

mutual
def names : T → Sc
  | .num _ suf => addSuf [] suf
  | .var s => [(Kind.var, s)]
  | .call f args => namesL args ++ [(Kind.func, f)]
  | .arr xs => namesL xs
  | .paren t => names t
  | .power b rest => names b ++ namesP rest
  | .neg t => names t
  | .par a rest => names a ++ namesL rest
  | .prod a rest => names a ++ namesP rest
  | .sum _ a rest => names a ++ namesP rest
def namesL : List T → Sc
  | [] => []
  | t :: ts => names t ++ namesL ts
def namesP : List (Bool × T) → Sc
  | [] => []
  | (_, t) :: ts => names t ++ namesP ts
end

/-- head phrase followed by a repetition -/
def seqQ {α β : Type} (head : QRes T) (tailf : List Tok → Sc → QRes α) (mk : T → α → β) : QRes β :=
  match head with
  | (none, sc1) => (none, sc1)
  | (some (a, r), sc1) =>
    match tailf r sc1 with
    | (none, sc2) => (none, sc2)
    | (some (rest, r'), sc2) => (some (mk a rest, r'), sc2)

/-- one iteration of a ZeroOrMore whose separator has already been consumed; `back` is the input to
    hand back if the operand fails (the scratch is NOT rolled back) -/
def iterQ {γ : Type} (operand : QRes T) (back : List Tok) (tailf : List Tok → Sc → QRes (List γ)) (mk : T → γ) :
    QRes (List γ) :=
  match operand with
  | (none, sc1) => (some ([], back), sc1)
  | (some (t, r1), sc1) =>
    match tailf r1 sc1 with
    | (none, sc2) => (none, sc2)
    | (some (ts, r2), sc2) => (some (mk t :: ts, r2), sc2)

mutual
def qExpr : Nat → List Tok → Sc → QRes T
  | 0, _, sc => (none, sc)
  | f+1, .plus :: r, sc => seqQ (qProduct f r sc) (qSumTail f) (mkSum true)
  | f+1, ts, sc => seqQ (qProduct f ts sc) (qSumTail f) (mkSum false)
def qSumTail : Nat → List Tok → Sc → QRes (List (Bool × T))
  | 0, _, sc => (none, sc)
  | f+1, .plus :: r, sc => iterQ (qProduct f r sc) (.plus :: r) (qSumTail f) (fun t => (false, t))
  | f+1, .minus :: r, sc => iterQ (qProduct f r sc) (.minus :: r) (qSumTail f) (fun t => (true, t))
  | _+1, ts, sc => (some ([], ts), sc)
def qProduct : Nat → List Tok → Sc → QRes T
  | 0, _, sc => (none, sc)
  | f+1, ts, sc => seqQ (qParallel f ts sc) (qProdTail f) mkProd
def qProdTail : Nat → List Tok → Sc → QRes (List (Bool × T))
  | 0, _, sc => (none, sc)
  | f+1, .star :: r, sc => iterQ (qParallel f r sc) (.star :: r) (qProdTail f) (fun t => (false, t))
  | f+1, .slash :: r, sc => iterQ (qParallel f r sc) (.slash :: r) (qProdTail f) (fun t => (true, t))
  | _+1, ts, sc => (some ([], ts), sc)
def qParallel : Nat → List Tok → Sc → QRes T
  | 0, _, sc => (none, sc)
  | f+1, ts, sc => seqQ (qNegation f ts sc) (qParTail f) mkPar
def qParTail : Nat → List Tok → Sc → QRes (List T)
  | 0, _, sc => (none, sc)
  | f+1, .pipe :: .pipe :: r, sc => iterQ (qNegation f r sc) (.pipe :: .pipe :: r) (qParTail f) id
  | _+1, ts, sc => (some ([], ts), sc)
def qNegation : Nat → List Tok → Sc → QRes T
  | 0, _, sc => (none, sc)
  | f+1, .minus :: r, sc =>
    match qPower f r sc with
    | (none, sc1) => (none, sc1)
    | (some (t, r1), sc1) => (some (.neg t, r1), sc1)
  | f+1, ts, sc => qPower f ts sc
def qPower : Nat → List Tok → Sc → QRes T
  | 0, _, sc => (none, sc)
  | f+1, ts, sc => seqQ (qAtom f ts sc) (qPowTail f) mkPower
def qPowTail : Nat → List Tok → Sc → QRes (List (Bool × T))
  | 0, _, sc => (none, sc)
  | f+1, .caret :: .minus :: r, sc => iterQ (qAtom f r sc) (.caret :: .minus :: r) (qPowTail f) (fun t => (true, t))
  | f+1, .caret :: r, sc => iterQ (qAtom f r sc) (.caret :: r) (qPowTail f) (fun t => (false, t))
  | _+1, ts, sc => (some ([], ts), sc)
def qList : Nat → List Tok → Sc → QRes (List T)
  | 0, _, sc => (none, sc)
  | f+1, ts, sc => seqQ (qExpr f ts sc) (qListTail f) (fun a rest => a :: rest)
def qListTail : Nat → List Tok → Sc → QRes (List T)
  | 0, _, sc => (none, sc)
  | f+1, .comma :: r, sc => iterQ (qExpr f r sc) (.comma :: r) (qListTail f) id
  | _+1, ts, sc => (some ([], ts), sc)
def qAtom : Nat → List Tok → Sc → QRes T
  | 0, _, sc => (none, sc)
  | _+1, .num txt suf :: r, sc => (some (.num txt suf, r), addSuf sc suf)
  | f+1, .name s :: .lp :: r, sc =>
    match qList f r sc with
    | (some (args, .rp :: r2), sc1) => (some (.call s args, r2), sc1 ++ [(Kind.func, s)])
    | (_, sc1) => (some (.var s, .lp :: r), sc1 ++ [(Kind.var, s)])
  | _+1, .name s :: r, sc => (some (.var s, r), sc ++ [(Kind.var, s)])
  | f+1, .lp :: r, sc =>
    match qExpr f r sc with
    | (some (t, .rp :: r2), sc1) => (some (.paren t, r2), sc1)
    | (_, sc1) => (none, sc1)
  | f+1, .lb :: r, sc =>
    match qList f r sc with
    | (some (ts, .rb :: r2), sc1) => (some (.arr ts, r2), sc1)
    | (_, sc1) => (none, sc1)
  | _+1, _, sc => (none, sc)
end

/-- what `MathParser.parse` observes: the tree and the three scratch sets after a *successful* parse -/
def parseUsage (ts : List Tok) : Option (T × Sc) :=
  match qExpr (20 * ts.length + 20) ts [] with
  | (some (t, []), sc) => some (t, sc)
  | _ => none

end C03
