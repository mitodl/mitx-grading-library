import Mitx.Parser.Syntax
/-! Ten of the twelve parsers of `Syntax.lean` have one of two shapes: a head followed by a repetition (`seqP`), or a
    repetition: separator, operand, rest (`tailP`). Each parser's step is stated here once, as an equation; each
    invariant (`Reject`, `Fuel`, `Erase`, `UsageInv`) is proved once per shape and instantiated. -/
namespace C03

/-- a head phrase, then a repetition run on what the head left; `mk` builds the result (the pure form of `seqQ`) -/
def seqP {α β : Type} (head : Res T) (tailf : List Tok → Res α) (mk : T → α → β) : Res β :=
  match head with
  | none => none
  | some (a, r) =>
    match tailf r with
    | none => none
    | some (rest, r') => some (mk a rest, r')

/-- `op`: the separator found in front of `ts`, with its tag and the input behind it. Without a separator, or without
    an operand behind it, the repetition is over and hands `ts` back. -/
def tailP {β γ : Type} (op : Option (β × List Tok)) (ts : List Tok) (operand : List Tok → Res T)
    (tailf : List Tok → Res (List γ)) (mk : β → T → γ) : Res (List γ) :=
  match op with
  | none => some ([], ts)
  | some (b, r) =>
    match operand r with
    | none => some ([], ts)
    | some x => seqP (some x) tailf fun t l => mk b t :: l

def sumOp : List Tok → Option (Bool × List Tok)
  | .plus :: r => some (false, r)
  | .minus :: r => some (true, r)
  | _ => none
def prodOp : List Tok → Option (Bool × List Tok)
  | .star :: r => some (false, r)
  | .slash :: r => some (true, r)
  | _ => none
def parOp : List Tok → Option (Unit × List Tok)
  | .pipe :: .pipe :: r => some ((), r)
  | _ => none
def powOp : List Tok → Option (Bool × List Tok)
  | .caret :: .minus :: r => some (true, r)
  | .caret :: r => some (false, r)
  | _ => none
def listOp : List Tok → Option (Unit × List Tok)
  | .comma :: r => some ((), r)
  | _ => none

/-- the `mk…` functions build no node over an empty repetition; a function that appends over the node does not notice -/
theorem apply_mk {α β : Type} (F : T → List α) (G : List β → List α) (a node : T) (rest : List β) (hG : G [] = [])
    (hF : F node = F a ++ G rest) : F (if rest.isEmpty then a else node) = F a ++ G rest := by
  cases rest with
  | nil => rw [hG, List.append_nil]; rfl
  | cons _ _ => exact hF

theorem sumOp_eq_some {ts b r} (h : sumOp ts = some (b, r)) : ts = (if b then Tok.minus else Tok.plus) :: r := by
  unfold sumOp at h; split at h <;> cases h <;> rfl
theorem prodOp_eq_some {ts b r} (h : prodOp ts = some (b, r)) : ts = (if b then Tok.slash else Tok.star) :: r := by
  unfold prodOp at h; split at h <;> cases h <;> rfl
theorem parOp_eq_some {ts b r} (h : parOp ts = some (b, r)) : ts = Tok.pipe :: Tok.pipe :: r := by
  unfold parOp at h; split at h <;> cases h <;> rfl
theorem powOp_eq_some {ts b r} (h : powOp ts = some (b, r)) :
    ts = (if b then [Tok.caret, Tok.minus] else [Tok.caret]) ++ r := by
  unfold powOp at h; split at h <;> cases h <;> rfl
theorem listOp_eq_some {ts b r} (h : listOp ts = some (b, r)) : ts = Tok.comma :: r := by
  unfold listOp at h; split at h <;> cases h <;> rfl

theorem seqP_eq_some {α β head tailf} {mk : T → α → β} {b rest} (h : seqP head tailf mk = some (b, rest)) :
    ∃ a r l, head = some (a, r) ∧ tailf r = some (l, rest) ∧ b = mk a l := by
  unfold seqP at h
  rcases head with _ | ⟨a, r⟩
  · cases h
  · dsimp only at h
    rcases ht : tailf r with _ | ⟨l, r'⟩ <;> rw [ht] at h <;> cases h
    exact ⟨a, r, l, rfl, ht, rfl⟩

theorem tailP_eq_some {β γ op ts operand tailf} {mk : β → T → γ} {l rest}
    (h : tailP op ts operand tailf mk = some (l, rest)) :
    (l = [] ∧ rest = ts) ∨
      ∃ b r t r1 l', op = some (b, r) ∧ operand r = some (t, r1) ∧ tailf r1 = some (l', rest) ∧ l = mk b t :: l' := by
  unfold tailP at h
  rcases op with _ | ⟨b, r⟩
  · cases h; exact Or.inl ⟨rfl, rfl⟩
  · dsimp only at h
    rcases ho : operand r with _ | x <;> rw [ho] at h
    · cases h; exact Or.inl ⟨rfl, rfl⟩
    · obtain ⟨t, r1, l', hx, ht, rfl⟩ := seqP_eq_some h
      cases hx
      exact Or.inr ⟨b, r, t, r1, l', rfl, ho, ht, rfl⟩

theorem seqP_congr {α β head head' tailf tailf'} {mk : T → α → β}
    (hh : head' = head) (ht : ∀ a r, head = some (a, r) → tailf' r = tailf r) :
    seqP head' tailf' mk = seqP head tailf mk := by
  subst hh
  unfold seqP
  rcases head' with _ | ⟨a, r⟩
  · rfl
  · dsimp only; rw [ht a r rfl]

theorem tailP_congr {β γ op ts operand operand' tailf tailf'} {mk : β → T → γ}
    (ho : ∀ b r, op = some (b, r) → operand' r = operand r)
    (ht : ∀ b r t r1, op = some (b, r) → operand r = some (t, r1) → tailf' r1 = tailf r1) :
    tailP op ts operand' tailf' mk = tailP op ts operand tailf mk := by
  unfold tailP
  rcases op with _ | ⟨b, r⟩
  · rfl
  · dsimp only; rw [ho b r rfl]
    rcases h : operand r with _ | ⟨t, r1⟩
    · rfl
    · exact seqP_congr rfl fun a r' e => by cases e; exact ht b r t r1 rfl h

/-! Lean does not unfold a `match` whose discriminant is stuck; it identifies a `match` of `Syntax.lean` with one
    written here only at the same types, so these three are stated at the types the parsers use (`pParallel_succ` and
    `pList_succ`, alone at their types, carry the same proof inline). -/
theorem seqP_match (head : Res T) (tailf : List Tok → Res (List (Bool × T))) (mk : T → List (Bool × T) → T) :
    (match head with
      | none => none
      | some (a, r) => match tailf r with
        | none => none
        | some (rest, r') => some (mk a rest, r')) = seqP head tailf mk := by
  unfold seqP
  rcases head with _ | ⟨a, r⟩
  · rfl
  · dsimp only
    rcases tailf r with _ | ⟨l, r'⟩ <;> rfl

theorem tailP_match (ts r : List Tok) (operand : List Tok → Res T) (tailf : List Tok → Res (List (Bool × T))) (b : Bool) :
    (match operand r with
      | none => some ([], ts)
      | some (t, r1) => match tailf r1 with
        | none => none
        | some (l, r2) => some ((b, t) :: l, r2)) = tailP (some (b, r)) ts operand tailf Prod.mk := by
  unfold tailP seqP
  dsimp only
  rcases operand r with _ | ⟨t, r1⟩
  · rfl
  · dsimp only
    rcases tailf r1 with _ | ⟨l, r2⟩ <;> rfl

theorem tailP_match_unit (ts r : List Tok) (operand : List Tok → Res T) (tailf : List Tok → Res (List T)) :
    (match operand r with
      | none => some ([], ts)
      | some (t, r1) => match tailf r1 with
        | none => none
        | some (l, r2) => some (t :: l, r2)) = tailP (some ((), r)) ts operand tailf fun _ t => t := by
  unfold tailP seqP
  dsimp only
  rcases operand r with _ | ⟨t, r1⟩
  · rfl
  · dsimp only
    rcases tailf r1 with _ | ⟨l, r2⟩ <;> rfl

theorem pExpr_succ (f : Nat) (ts : List Tok) :
    pExpr (f+1) ts = match ts with
      | .plus :: r => seqP (pProduct f r) (pSumTail f) (mkSum true)
      | _ => seqP (pProduct f ts) (pSumTail f) (mkSum false) := by
  cases ts with
  | nil => exact seqP_match ..
  | cons t r => cases t <;> exact seqP_match ..

theorem pProduct_succ (f : Nat) (ts : List Tok) : pProduct (f+1) ts = seqP (pParallel f ts) (pProdTail f) mkProd :=
  seqP_match ..

theorem pPower_succ (f : Nat) (ts : List Tok) : pPower (f+1) ts = seqP (pAtom f ts) (pPowTail f) mkPower :=
  seqP_match ..

theorem pParallel_succ (f : Nat) (ts : List Tok) :
    pParallel (f+1) ts = seqP (pNegation f ts) (pParTail f) mkPar := by
  rw [pParallel]; unfold seqP
  rcases pNegation f ts with _ | ⟨a, r⟩
  · rfl
  · dsimp only
    rcases pParTail f r with _ | ⟨l, r'⟩ <;> rfl

theorem pList_succ (f : Nat) (ts : List Tok) :
    pList (f+1) ts = seqP (pExpr f ts) (pListTail f) List.cons := by
  rw [pList]; unfold seqP
  rcases pExpr f ts with _ | ⟨a, r⟩
  · rfl
  · dsimp only
    rcases pListTail f r with _ | ⟨l, r'⟩ <;> rfl

theorem pSumTail_succ (f : Nat) (ts : List Tok) :
    pSumTail (f+1) ts = tailP (sumOp ts) ts (pProduct f) (pSumTail f) Prod.mk := by
  cases ts with
  | nil => rfl
  | cons t r => cases t <;> first | rfl | exact tailP_match ..

theorem pProdTail_succ (f : Nat) (ts : List Tok) :
    pProdTail (f+1) ts = tailP (prodOp ts) ts (pParallel f) (pProdTail f) Prod.mk := by
  cases ts with
  | nil => rfl
  | cons t r => cases t <;> first | rfl | exact tailP_match ..

theorem pPowTail_succ (f : Nat) (ts : List Tok) :
    pPowTail (f+1) ts = tailP (powOp ts) ts (pAtom f) (pPowTail f) Prod.mk := by
  cases ts with
  | nil => rfl
  | cons t r =>
    cases t <;> try rfl
    cases r with
    | nil => exact tailP_match ..
    | cons t' r' => cases t' <;> exact tailP_match ..

theorem pParTail_succ (f : Nat) (ts : List Tok) :
    pParTail (f+1) ts = tailP (parOp ts) ts (pNegation f) (pParTail f) (fun _ t => t) := by
  cases ts with
  | nil => rfl
  | cons t r =>
    cases t <;> try rfl
    cases r with
    | nil => rfl
    | cons t' r' => cases t' <;> first | rfl | exact tailP_match_unit ..

theorem pListTail_succ (f : Nat) (ts : List Tok) :
    pListTail (f+1) ts = tailP (listOp ts) ts (pExpr f) (pListTail f) (fun _ t => t) := by
  cases ts with
  | nil => rfl
  | cons t r => cases t <;> first | rfl | exact tailP_match_unit ..

theorem pNegation_succ (f : Nat) (ts : List Tok) :
    pNegation (f+1) ts = match ts with
      | .minus :: r =>
        match pPower f r with
        | none => none
        | some (t, r1) => some (.neg t, r1)
      | _ => pPower f ts := by
  cases ts with
  | nil => rfl
  | cons t r => cases t <;> rfl

theorem pAtom_succ (f : Nat) (ts : List Tok) :
    pAtom (f+1) ts = match ts with
      | .num txt suf :: r => some (.num txt suf, r)
      | .name s :: .lp :: r =>
        match pList f r with
        | some (args, .rp :: r2) => some (.call s args, r2)
        | _ => some (.var s, .lp :: r)
      | .name s :: r => some (.var s, r)
      | .lp :: r =>
        match pExpr f r with
        | some (t, .rp :: r2) => some (.paren t, r2)
        | _ => none
      | .lb :: r =>
        match pList f r with
        | some (ts, .rb :: r2) => some (.arr ts, r2)
        | _ => none
      | _ => none := by
  cases ts with
  | nil => rfl
  | cons t r =>
    cases t <;> try rfl
    cases r with
    | nil => rfl
    | cons t' r' => cases t' <;> rfl

end C03
