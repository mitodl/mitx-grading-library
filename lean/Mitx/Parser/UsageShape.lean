import Mitx.Parser.Usage
import Mitx.Parser.Shape
/-! The equations of `Shape.lean` for the parsers of `Usage.lean`. `qProduct`, `qParallel`, `qPower`, `qList` are written with `seqQ`
    in `Usage.lean` itself and unfold by `rfl`: they need none. -/
namespace C03

/-- `tailP` with the scratch threaded through -/
def tailQ {β γ : Type} (op : Option (β × List Tok)) (ts : List Tok) (operand : List Tok → Sc → QRes T)
    (tailf : List Tok → Sc → QRes (List γ)) (mk : β → T → γ) (sc : Sc) : QRes (List γ) :=
  match op with
  | none => (some ([], ts), sc)
  | some (b, r) => iterQ (operand r sc) ts tailf (mk b)

theorem iterQ_some {γ : Type} (t : T) (r1 back : List Tok) (sc1 : Sc) (tailf : List Tok → Sc → QRes (List γ)) (mk : T → γ) :
    iterQ (some (t, r1), sc1) back tailf mk = seqQ (some (t, r1), sc1) tailf (fun t l => mk t :: l) := by
  unfold iterQ seqQ
  dsimp only
  rcases tailf r1 sc1 with ⟨_ | ⟨l, r2⟩, sc2⟩ <;> rfl

theorem qExpr_succ (f : Nat) (ts : List Tok) (sc : Sc) :
    qExpr (f+1) ts sc = match ts with
      | .plus :: r => seqQ (qProduct f r sc) (qSumTail f) (mkSum true)
      | _ => seqQ (qProduct f ts sc) (qSumTail f) (mkSum false) := by
  cases ts with
  | nil => rfl
  | cons t r => cases t <;> rfl

theorem qSumTail_succ (f : Nat) (ts : List Tok) (sc : Sc) :
    qSumTail (f+1) ts sc = tailQ (sumOp ts) ts (qProduct f) (qSumTail f) Prod.mk sc := by
  cases ts with
  | nil => rfl
  | cons t r => cases t <;> rfl

theorem qProdTail_succ (f : Nat) (ts : List Tok) (sc : Sc) :
    qProdTail (f+1) ts sc = tailQ (prodOp ts) ts (qParallel f) (qProdTail f) Prod.mk sc := by
  cases ts with
  | nil => rfl
  | cons t r => cases t <;> rfl

theorem qParTail_succ (f : Nat) (ts : List Tok) (sc : Sc) :
    qParTail (f+1) ts sc = tailQ (parOp ts) ts (qNegation f) (qParTail f) (fun _ t => t) sc := by
  cases ts with
  | nil => rfl
  | cons t r =>
    cases t <;> try rfl
    cases r with
    | nil => rfl
    | cons t' r' => cases t' <;> rfl

theorem qPowTail_succ (f : Nat) (ts : List Tok) (sc : Sc) :
    qPowTail (f+1) ts sc = tailQ (powOp ts) ts (qAtom f) (qPowTail f) Prod.mk sc := by
  cases ts with
  | nil => rfl
  | cons t r =>
    cases t <;> try rfl
    cases r with
    | nil => rfl
    | cons t' r' => cases t' <;> rfl

theorem qListTail_succ (f : Nat) (ts : List Tok) (sc : Sc) :
    qListTail (f+1) ts sc = tailQ (listOp ts) ts (qExpr f) (qListTail f) (fun _ t => t) sc := by
  cases ts with
  | nil => rfl
  | cons t r => cases t <;> rfl

theorem qNegation_succ (f : Nat) (ts : List Tok) (sc : Sc) :
    qNegation (f+1) ts sc = match ts with
      | .minus :: r =>
        match qPower f r sc with
        | (none, sc1) => (none, sc1)
        | (some (t, r1), sc1) => (some (.neg t, r1), sc1)
      | _ => qPower f ts sc := by
  cases ts with
  | nil => rfl
  | cons t r => cases t <;> rfl

theorem qAtom_succ (f : Nat) (ts : List Tok) (sc : Sc) :
    qAtom (f+1) ts sc = match ts with
      | .num txt suf :: r => (some (.num txt suf, r), addSuf sc suf)
      | .name s :: .lp :: r =>
        match qList f r sc with
        | (some (args, .rp :: r2), sc1) => (some (.call s args, r2), sc1 ++ [(Kind.func, s)])
        | (_, sc1) => (some (.var s, .lp :: r), sc1 ++ [(Kind.var, s)])
      | .name s :: r => (some (.var s, r), sc ++ [(Kind.var, s)])
      | .lp :: r =>
        match qExpr f r sc with
        | (some (t, .rp :: r2), sc1) => (some (.paren t, r2), sc1)
        | (_, sc1) => (none, sc1)
      | .lb :: r =>
        match qList f r sc with
        | (some (ts, .rb :: r2), sc1) => (some (.arr ts, r2), sc1)
        | (_, sc1) => (none, sc1)
      | _ => (none, sc) := by
  cases ts with
  | nil => rfl
  | cons t r =>
    cases t <;> try rfl
    cases r with
    | nil => rfl
    | cons t' r' => cases t' <;> rfl

end C03
