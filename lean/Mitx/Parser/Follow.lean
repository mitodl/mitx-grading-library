import Mitx.Parser.Shape
/-! continuation conditions: what may follow a complete phrase of each level (numbered as in `Render.lean`). There is no
    `ok3`: a negation is a power with a sign in front, and what may follow it is what may follow the power, `ok4`. -/
namespace C03

def ok5 : List Tok → Prop
  | .lp :: _ => False
  | _ => True
def ok4 : List Tok → Prop
  | .lp :: _ => False
  | .caret :: _ => False
  | _ => True
def ok2 : List Tok → Prop
  | .lp :: _ => False
  | .caret :: _ => False
  | .pipe :: _ => False
  | _ => True
def ok1 : List Tok → Prop
  | .lp :: _ => False
  | .caret :: _ => False
  | .pipe :: _ => False
  | .star :: _ => False
  | .slash :: _ => False
  | _ => True
def ok0 : List Tok → Prop
  | .lp :: _ => False
  | .caret :: _ => False
  | .pipe :: _ => False
  | .star :: _ => False
  | .slash :: _ => False
  | .plus :: _ => False
  | .minus :: _ => False
  | _ => True

theorem ok4_of_ok2 {r} (h : ok2 r) : ok4 r := by
  cases r with | nil => trivial | cons t _ => cases t <;> first | exact h | trivial
theorem ok5_of_ok4 {r} (h : ok4 r) : ok5 r := by
  cases r with | nil => trivial | cons t _ => cases t <;> first | exact h | trivial
theorem ok2_of_ok1 {r} (h : ok1 r) : ok2 r := by
  cases r with | nil => trivial | cons t _ => cases t <;> first | exact h | trivial
theorem ok1_of_ok0 {r} (h : ok0 r) : ok1 r := by
  cases r with | nil => trivial | cons t _ => cases t <;> first | exact h | trivial

def headNot (tk : Tok) : List Tok → Prop
  | t :: _ => t ≠ tk
  | [] => True

/-- what may follow a comma-separated list: a closing bracket, in particular not a comma -/
def okL (r : List Tok) : Prop := ok0 r ∧ headNot .comma r

/-! a separator is excluded by the follow set of its own level and admitted by that of the level above -/

theorem sumOp_follow {ts b r} (h : sumOp ts = some (b, r)) : ¬ ok0 ts ∧ ok1 ts := by
  rw [sumOp_eq_some h]; cases b <;> exact ⟨id, trivial⟩
theorem prodOp_follow {ts b r} (h : prodOp ts = some (b, r)) : ¬ ok1 ts ∧ ok2 ts := by
  rw [prodOp_eq_some h]; cases b <;> exact ⟨id, trivial⟩
theorem parOp_follow {ts b r} (h : parOp ts = some (b, r)) : ¬ ok2 ts ∧ ok4 ts := by
  rw [parOp_eq_some h]; exact ⟨id, trivial⟩
theorem powOp_follow {ts b r} (h : powOp ts = some (b, r)) : ¬ ok4 ts ∧ ok5 ts := by
  rw [powOp_eq_some h]; cases b <;> exact ⟨id, trivial⟩
theorem listOp_follow {ts b r} (h : listOp ts = some (b, r)) : ¬ okL ts ∧ ok0 ts := by
  rw [listOp_eq_some h]; exact ⟨fun h => h.2 rfl, trivial⟩

end C03
