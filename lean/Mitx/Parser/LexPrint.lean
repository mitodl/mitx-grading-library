import Mitx.Parser.LexTok
import Mitx.Parser.Render
/-! The lexer inverts printing (`lex_print`) on token lists whose leaves are plain — digit strings, a letter followed by
    letters and digits — and that have no two operands adjacent; `render` produces such lists (`render_fine`).
    `printToks` writes no separators: the model lexer, like the library, drops spaces first. -/
namespace C03

def Tok.text : Tok → List Char
  | .num txt none => txt.toList
  | .num txt (some s) => txt.toList ++ s.toList
  | .name s => s.toList
  | .plus => ['+'] | .minus => ['-'] | .star => ['*'] | .slash => ['/'] | .caret => ['^'] | .pipe => ['|']
  | .lp => ['('] | .rp => [')'] | .lb => ['['] | .rb => [']'] | .comma => [',']

def printToks : List Tok → List Char
  | [] => []
  | t :: r => t.text ++ printToks r

def operand : Tok → Bool
  | .num _ _ => true | .name _ => true | _ => false

/-- plain leaves: digit strings without suffix; a letter followed by letters and digits -/
def simpleTok : Tok → Bool
  | .num txt none => !txt.toList.isEmpty && txt.toList.all isDigit
  | .num _ (some _) => false
  | .name s => match s.toList with
    | c :: w => isAlpha c && w.all isAlnum
    | [] => false
  | _ => true

/-- no two operands next to each other -/
def sep : List Tok → Bool
  | a :: b :: r => !(operand a && operand b) && sep (b :: r)
  | _ => true

/-- what follows a printed operand: nothing, or an operator / bracket / comma -/
def delim (r : List Char) : Prop := ∀ c ∈ r.head?, c ∈ opChars

theorem delim.stop {r : List Char} (h : delim r) {p : Char → Bool} (hp : ∀ c ∈ opChars, p c = false) :
    ∀ c ∈ r.head?, p c = false :=
  fun c hc => hp c (h c hc)

theorem lexNumText_digits {ds r : List Char} (hne : ds ≠ []) (hd : ∀ c ∈ ds, isDigit c = true) (hr : delim r) :
    lexNumText (ds ++ r) = some (ds, r) := by
  have hm : lexMantissa (ds ++ r) = some (ds, r) := by
    simp only [lexMantissa, word1_eq hne hd (hr.stop (by decide +kernel))]
    split
    · exact absurd (hr '.' rfl) (by decide +kernel)
    · rfl
  simp only [lexNumText, hm]
  split
  · next e r1 =>
    have := hr.stop (p := fun e => e == 'e' || e == 'E') (by decide +kernel) e rfl
    simp [this]
  · rfl

theorem lexName_plain {w r : List Char} (hw : ∀ c ∈ w, isAlnum c = true) (hr : delim r) (hb : '{' ∉ r) :
    lexName (w ++ r) = (w, r) := by
  have h1 : takeWhile isAlnum (w ++ r) = (w, r) := takeWhile_eq hw (hr.stop (by decide +kernel))
  have hi (o : Char) : lexIndex o r = none := by
    unfold lexIndex
    split
    · simp at hb
    · rfl
  have h2 : lexNameMid r = ([], r) := by
    simp [lexNameMid, word1_none (hr.stop (p := fun c => isAlnum c || c == '_') (by decide +kernel)), lexIndices, hi, orSkip]
  have h3 : takeWhile (· == '\'') r = ([], r) := takeWhile_stop (hr.stop (by decide +kernel))
  simp only [lexName, h1, h2, h3, List.append_nil]

theorem lexTok_digits {ds r : List Char} (hne : ds ≠ []) (hd : ∀ c ∈ ds, isDigit c = true) (hr : delim r) :
    lexTok (ds ++ r) = some (.num (String.ofList ds) none, r) := by
  have hsuf : word1 (fun c => isAlpha c || c == '%') (skipWs r) = none := by
    rw [skipWs_eq, takeWhile_stop (hr.stop (by decide +kernel))]
    exact word1_none (hr.stop (by decide +kernel))
  have hn := lexNumText_digits hne hd hr
  cases ds with
  | nil => exact absurd rfl hne
  | cons d ds =>
    simp only [List.cons_append] at hn ⊢
    simp only [lexTok, hd d (by simp), Bool.true_or, if_true, hn, hsuf]

theorem alpha_not_digit {c : Char} (h : isAlpha c = true) : isDigit c = false := by
  simp only [isAlpha, isDigit, Bool.or_eq_true, Bool.and_eq_true, decide_eq_true_eq, Bool.and_eq_false_imp, decide_eq_false_iff_not,
    Char.le_def, UInt32.le_iff_toNat_le] at h ⊢
  have e1 : ('a' : Char).val.toNat = 97 := by decide
  have e2 : ('9' : Char).val.toNat = 57 := by decide
  have e3 : ('A' : Char).val.toNat = 65 := by decide
  have e4 : ('0' : Char).val.toNat = 48 := by decide
  omega

theorem lexTok_name {c : Char} {w r : List Char} (hc : isAlpha c = true) (hw : ∀ d ∈ w, isAlnum d = true)
    (hr : delim r) (hb : '{' ∉ r) : lexTok (c :: w ++ r) = some (.name (String.ofList (c :: w)), r) := by
  have hn : lexName (c :: (w ++ r)) = (c :: w, r) :=
    lexName_plain (w := c :: w) (List.forall_mem_cons.mpr ⟨by rw [isAlnum, hc, Bool.true_or], hw⟩) hr hb
  have hdot : (c == '.') = false := by
    rw [beq_eq_false_iff_ne]; rintro rfl; revert hc; decide
  simp only [List.cons_append, lexTok, alpha_not_digit hc, hdot, Bool.or_self, Bool.false_eq_true, if_false, hc, if_true, hn]

theorem op_text {t : Tok} (h : operand t = false) : ∃ c, t.text = [c] ∧ opTok c = some t := by
  cases t with
  | num => cases h
  | name => cases h
  | _ => exact ⟨_, rfl, by decide +kernel⟩

theorem simpleTok_cases {t : Tok} (hs : simpleTok t = true) :
    (∃ ds, ds ≠ [] ∧ (∀ c ∈ ds, isDigit c = true) ∧ t = .num (String.ofList ds) none) ∨
    (∃ c w, isAlpha c = true ∧ (∀ d ∈ w, isAlnum d = true) ∧ t = .name (String.ofList (c :: w))) ∨
    operand t = false := by
  cases t with
  | num txt suf =>
    cases suf with
    | some _ => cases hs
    | none =>
      simp only [simpleTok, Bool.and_eq_true, Bool.not_eq_eq_eq_not, Bool.not_true, List.isEmpty_eq_false_iff, List.all_eq_true] at hs
      exact .inl ⟨txt.toList, hs.1, hs.2, by rw [String.ofList_toList]⟩
  | name s =>
    simp only [simpleTok] at hs
    split at hs
    · next c w h =>
      simp only [Bool.and_eq_true, List.all_eq_true] at hs
      exact .inr (.inl ⟨c, w, hs.1, hs.2, by rw [← h, String.ofList_toList]⟩)
    · cases hs
  | _ => exact .inr (.inr rfl)

theorem lexTok_text {t : Tok} {r : List Char} (hs : simpleTok t = true) (hr : operand t = true → delim r ∧ '{' ∉ r) :
    lexTok (t.text ++ r) = some (t, r) := by
  rcases simpleTok_cases hs with ⟨ds, hne, hd, rfl⟩ | ⟨c, w, hc, hw, rfl⟩ | ho
  · simpa [Tok.text] using lexTok_digits hne hd (hr rfl).1
  · simpa [Tok.text] using lexTok_name hc hw (hr rfl).1 (hr rfl).2
  · obtain ⟨c, hc, ht⟩ := op_text ho
    rw [hc]
    exact lexTok_op r ht

theorem text_chars {t : Tok} (hs : simpleTok t = true) : ∀ c ∈ t.text, isAlnum c = true ∨ c ∈ opChars := by
  rcases simpleTok_cases hs with ⟨ds, -, hd, rfl⟩ | ⟨c, w, hc, hw, rfl⟩ | ho
  · exact fun c h => .inl (by simp [isAlnum, hd c (by simpa [Tok.text] using h)])
  · intro d h
    rcases List.mem_cons.mp (by simpa [Tok.text] using h) with rfl | h
    · exact .inl (by simp [isAlnum, hc])
    · exact .inl (hw d h)
  · obtain ⟨c, hc, ht⟩ := op_text ho
    intro d hd
    rw [hc, List.mem_singleton] at hd
    exact .inr (hd ▸ mem_opChars ht)

theorem print_chars {l : List Tok} (hs : l.all simpleTok = true) : ∀ c ∈ printToks l, isAlnum c = true ∨ c ∈ opChars := by
  induction l with
  | nil => intro c hc; cases hc
  | cons t l ih =>
    simp only [List.all_cons, Bool.and_eq_true] at hs
    intro c hc
    rcases List.mem_append.mp hc with h | h
    · exact text_chars hs.1 c h
    · exact ih hs.2 c h

theorem sep_tail {a : Tok} {l : List Tok} (h : sep (a :: l) = true) : sep l = true := by
  cases l with
  | nil => rfl
  | cons b r => simp only [sep, Bool.and_eq_true] at h; exact h.2

theorem print_delim {t : Tok} {l : List Tok} (hsep : sep (t :: l) = true) (ht : operand t = true) : delim (printToks l) := by
  cases l with
  | nil => exact fun _ h => nomatch h
  | cons b l =>
    simp only [sep, ht, Bool.true_and, Bool.and_eq_true, Bool.not_eq_eq_eq_not, Bool.not_true] at hsep
    obtain ⟨c, hc, hb⟩ := op_text hsep.1
    intro d hd
    rw [printToks, hc] at hd
    cases hd
    exact mem_opChars hb

theorem lexAux_print : ∀ (l : List Tok) (f : Nat), l.all simpleTok = true → sep l = true → l.length < f →
    lexAux f (printToks l) = some l
  | [], _ + 1, _, _, _ => rfl
  | t :: l, f + 1, hs, hsep, hf => by
    simp only [List.all_cons, Bool.and_eq_true] at hs
    have ht : lexTok (t.text ++ printToks l) = some (t, printToks l) :=
      lexTok_text hs.1 fun ho => ⟨print_delim hsep ho, fun hb => by
        rcases print_chars hs.2 _ hb with h | h <;> revert h <;> decide⟩
    rw [printToks, lexAux_of_lexTok f ht, lexAux_print l f hs.2 (sep_tail hsep) (Nat.lt_of_succ_lt_succ hf)]
    rfl

theorem print_length {l : List Tok} (hs : l.all simpleTok = true) : l.length ≤ (printToks l).length := by
  induction l with
  | nil => exact Nat.le_refl _
  | cons t l ih =>
    simp only [List.all_cons, Bool.and_eq_true] at hs
    have : 0 < t.text.length := by
      rcases simpleTok_cases hs.1 with ⟨ds, hne, -, rfl⟩ | ⟨c, w, -, -, rfl⟩ | ho
      · simpa [Tok.text] using List.length_pos_iff.mpr hne
      · simp [Tok.text]
      · obtain ⟨c, hc, -⟩ := op_text ho
        simp [hc]
    have := ih hs.2
    simp only [printToks, List.length_cons, List.length_append]
    omega

def printStr (l : List Tok) : String := String.ofList (printToks l)

/-- **`lex` inverts printing** on token lists with plain leaves and no adjacent operands -/
theorem lex_print (l : List Tok) (hs : l.all simpleTok = true) (hsep : sep l = true) : lex (printStr l) = some l := by
  have hf : (printToks l).filter (· != ' ') = printToks l :=
    List.filter_eq_self.mpr fun c hc => by
      rw [bne_iff_ne]; rintro rfl
      rcases print_chars hs _ hc with h | h <;> revert h <;> decide
  simp only [lex, printStr, String.toList_ofList, hf]
  exact lexAux_print l _ hs hsep (Nat.lt_succ_of_le (print_length hs))

mutual
def plainE : E → Bool
  | .num txt suf => simpleTok (.num txt suf)
  | .var s => simpleTok (.name s)
  | .call f a rest => simpleTok (.name f) && plainE a && plainL rest
  | .arr a rest => plainE a && plainL rest
  | .neg e => plainE e
  | .pow b e => plainE b && plainE e
  | .par a b rest => plainE a && plainE b && plainL rest
  | .mul a b => plainE a && plainE b
  | .div a b => plainE a && plainE b
  | .add a b => plainE a && plainE b
  | .sub a b => plainE a && plainE b
def plainL : List E → Bool
  | [] => true
  | e :: es => plainE e && plainL es
end

/-- plain leaves and no adjacent operands -/
def Fine (l : List Tok) : Prop := l.all simpleTok = true ∧ sep l = true

theorem sep_append_op {o : Tok} (ho : operand o = false) (X Y : List Tok) : sep (X ++ o :: Y) = (sep X && sep Y) := by
  induction X with
  | nil => cases Y <;> simp only [List.nil_append, sep, ho, Bool.false_and, Bool.not_false, Bool.true_and, Bool.and_self]
  | cons a X ih =>
    cases X with
    | nil => simpa only [List.nil_append, List.cons_append, sep, ho, Bool.and_false, Bool.not_false, Bool.true_and] using ih
    -- `sep.eq_1`, not `sep`: simp would try the catch-all equation, and fail its side condition, at every subterm
    | cons b X => simp only [List.cons_append, sep.eq_1, Bool.and_assoc] at ih ⊢; rw [ih]

theorem Fine.nil : Fine [] := ⟨rfl, rfl⟩

theorem Fine.single {t : Tok} (h : simpleTok t = true) : Fine [t] := ⟨by simp [h], rfl⟩

theorem Fine.op (o : Tok) {X Y : List Tok} (hX : Fine X) (hY : Fine Y) (ho : operand o = false := by rfl)
    (hs : simpleTok o = true := by rfl) : Fine (X ++ o :: Y) :=
  ⟨by simp [List.all_append, hX.1, hY.1, hs], by rw [sep_append_op ho, hX.2, hY.2]; rfl⟩

theorem Fine.cons (o : Tok) {Y : List Tok} (hY : Fine Y) (ho : operand o = false := by rfl)
    (hs : simpleTok o = true := by rfl) : Fine (o :: Y) :=
  Fine.op o Fine.nil hY ho hs

theorem Fine.bracket {l : List Tok} (hl : Fine l) : Fine (Tok.lp :: l ++ [Tok.rp]) :=
  Fine.cons .lp (Fine.op .rp hl Fine.nil)

theorem Fine.at {r : R} (k : Nat) (hc : Fine r.core) : Fine (r.at k) := by
  unfold R.at
  split
  · exact hc
  · exact Fine.bracket hc

theorem ra_neg (x : E) : (ra (.neg x)).core = Tok.minus :: (ra x).at 4 ∧
    ∃ k, (ra (.neg x)).expo = Tok.minus :: (ra x).at k := by
  cases x with
  | pow b e => exact ⟨rfl, 4, rfl⟩  -- a power is at level 4: not bracketed in the exponent of a negation
  | _ => exact ⟨rfl, 5, rfl⟩

mutual
theorem ra_fine : ∀ e : E, plainE e = true → Fine (ra e).core ∧ Fine (ra e).expo
  | .num txt suf, hp => ⟨Fine.single hp, Fine.single hp⟩
  | .var s, hp => ⟨Fine.single hp, Fine.single hp⟩
  | .call f a rest, hp => by
    simp only [plainE, Bool.and_eq_true] at hp
    suffices h : Fine _ from ⟨h, h⟩
    exact Fine.op .rp (raArgs_fine rest hp.2 (Fine.op .lp (Fine.single hp.1.1) (Fine.at 0 (ra_fine a hp.1.2).1))) Fine.nil
  | .arr a rest, hp => by
    simp only [plainE, Bool.and_eq_true] at hp
    suffices h : Fine _ from ⟨h, h⟩
    exact Fine.op .rb (raArgs_fine rest hp.2 (Fine.cons .lb (Fine.at 0 (ra_fine a hp.1).1))) Fine.nil
  | .neg x, hp => by
    obtain ⟨hc, k, he⟩ := ra_neg x
    rw [hc, he]
    exact ⟨Fine.cons .minus (Fine.at 4 (ra_fine x hp).1), Fine.cons .minus (Fine.at k (ra_fine x hp).1)⟩
  | .pow b e, hp => by
    simp only [plainE, Bool.and_eq_true] at hp
    suffices h : Fine _ from ⟨h, h⟩
    exact Fine.op .caret (Fine.at 5 (ra_fine b hp.1).1) (ra_fine e hp.2).2
  | .par a b rest, hp => by
    simp only [plainE, Bool.and_eq_true] at hp
    suffices h : Fine _ from ⟨h, Fine.bracket h⟩
    exact raPars_fine rest hp.2 (Fine.op .pipe (Fine.at 3 (ra_fine a hp.1.1).1) (Fine.cons .pipe (Fine.at 3 (ra_fine b hp.1.2).1)))
  | .mul a b, hp | .div a b, hp | .add a b, hp | .sub a b, hp => by
    simp only [plainE, Bool.and_eq_true] at hp
    suffices h : Fine _ from ⟨h, Fine.bracket h⟩
    exact Fine.op _ (Fine.at _ (ra_fine a hp.1).1) (Fine.at _ (ra_fine b hp.2).1)
theorem raArgs_fine : ∀ es : List E, plainL es = true → ∀ {X : List Tok}, Fine X → Fine (X ++ raArgs es)
  | [], _, X, hX => by simpa [raArgs] using hX
  | e :: es, hp, X, hX => by
    simp only [plainL, Bool.and_eq_true] at hp
    simpa [raArgs] using raArgs_fine es hp.2 (Fine.op .comma hX (Fine.at 0 (ra_fine e hp.1).1))
theorem raPars_fine : ∀ es : List E, plainL es = true → ∀ {X : List Tok}, Fine X → Fine (X ++ raPars es)
  | [], _, X, hX => by simpa [raPars] using hX
  | e :: es, hp, X, hX => by
    simp only [plainL, Bool.and_eq_true] at hp
    simpa [raPars] using raPars_fine es hp.2 (Fine.op .pipe hX (Fine.cons .pipe (Fine.at 3 (ra_fine e hp.1).1)))
end

theorem render_fine (e : E) (hp : plainE e = true) : Fine (render e) :=
  Fine.at 0 (ra_fine e hp).1


/-- **The lexer reads the printed rendering of any plain expression back as its token list** -/
theorem lex_render (e : E) (hp : plainE e = true) : lex (printStr (render e)) = some (render e) :=
  lex_print (render e) (render_fine e hp).1 (render_fine e hp).2

end C03
