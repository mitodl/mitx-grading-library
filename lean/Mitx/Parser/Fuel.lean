import Mitx.Parser.Reject
/-! Beyond `8·|tokens| + 6` more fuel never changes the result of `pExpr` (`Stb` has the bound of each parser), so a
    `none` of `parseToks` is a rejection, never an exhausted counter. Results are not monotone in the fuel (a repetition whose operand runs out of fuel ends
    successfully, with a shorter list), so stability is proved from the bound. -/
namespace C03

theorem Yields.lt {α} {y : α → List Tok} {st p} (hp : Yields y (Seg st) p) {ts a rest} (h : p ts = some (a, rest)) :
    rest.length < ts.length := by
  obtain ⟨rfl, ⟨x, hx, _⟩, _⟩ := hp _ _ _ h
  cases hy : y a with
  | nil => rw [hy] at hx; cases hx
  | cons _ _ => simp only [List.length_append, List.length_cons]; omega

/-- from the bound of its level on, one more unit of fuel does not change what a parser returns -/
structure Stb (f : Nat) : Prop where
  expr : ∀ ts, 8 * ts.length + 6 ≤ f → pExpr (f + 1) ts = pExpr f ts
  sumTail : ∀ ts, 8 * ts.length + 1 ≤ f → pSumTail (f + 1) ts = pSumTail f ts
  product : ∀ ts, 8 * ts.length + 5 ≤ f → pProduct (f + 1) ts = pProduct f ts
  prodTail : ∀ ts, 8 * ts.length + 1 ≤ f → pProdTail (f + 1) ts = pProdTail f ts
  parallel : ∀ ts, 8 * ts.length + 4 ≤ f → pParallel (f + 1) ts = pParallel f ts
  parTail : ∀ ts, 8 * ts.length + 1 ≤ f → pParTail (f + 1) ts = pParTail f ts
  negation : ∀ ts, 8 * ts.length + 3 ≤ f → pNegation (f + 1) ts = pNegation f ts
  power : ∀ ts, 8 * ts.length + 2 ≤ f → pPower (f + 1) ts = pPower f ts
  powTail : ∀ ts, 8 * ts.length + 1 ≤ f → pPowTail (f + 1) ts = pPowTail f ts
  list : ∀ ts, 8 * ts.length + 7 ≤ f → pList (f + 1) ts = pList f ts
  listTail : ∀ ts, 8 * ts.length + 1 ≤ f → pListTail (f + 1) ts = pListTail f ts
  atom : ∀ ts, 8 * ts.length + 1 ≤ f → pAtom (f + 1) ts = pAtom f ts

/-- the arithmetic of the bounds: behind a consumed token there is fuel for every level `k ≤ 7` -/
theorem fuel_behind {n m c k f : Nat} (hlt : n < m) (hk : k ≤ 7) (h : 8 * m + (c + 1) ≤ f + 1) : 8 * n + k ≤ f := by
  omega

/-- one level up costs one unit: the repetition only sees what the head left over; `k` is the head's constant in `Stb` -/
theorem seqP_stable {α β st} {p hd : Nat → List Tok → Res _} {tl : Nat → List Tok → Res α} {mk : T → α → β}
    (hp : ∀ f ts, p (f + 1) ts = seqP (hd f ts) (tl f) mk) {f : Nat} (k : Nat)
    (hh : ∀ ts, 8 * ts.length + k ≤ f → hd (f + 1) ts = hd f ts)
    (ht : ∀ ts, 8 * ts.length + 1 ≤ f → tl (f + 1) ts = tl f ts)
    (hy : Yields yT (Seg st) (hd f)) :
    ∀ ts, 8 * ts.length + (k + 1) ≤ f + 1 → p (f + 1 + 1) ts = p (f + 1) ts := by
  intro ts h
  rw [hp, hp]
  exact seqP_congr (hh ts (Nat.le_of_succ_le_succ h)) fun a r h1 => ht r (fuel_behind (hy.lt h1) (by decide) h)

/-- `8·|ts| + 1` suffices whatever the level `k ≤ 7` of the operand, which only runs behind the separator -/
theorem tailP_stable {β γ st} {p operand : Nat → List Tok → Res _} {op : List Tok → Option (β × List Tok)}
    {mk : β → T → γ}
    (hp : ∀ f ts, p (f + 1) ts = tailP (op ts) ts (operand f) (p f) mk)
    (hop : ∀ ts b r, op ts = some (b, r) → r.length < ts.length) {f : Nat} (k : Nat) (hk : k ≤ 7)
    (ho : ∀ ts, 8 * ts.length + k ≤ f → operand (f + 1) ts = operand f ts)
    (ht : ∀ ts, 8 * ts.length + 1 ≤ f → p (f + 1) ts = p f ts)
    (hy : Yields yT (Seg st) (operand f)) :
    ∀ ts, 8 * ts.length + 1 ≤ f + 1 → p (f + 1 + 1) ts = p (f + 1) ts := by
  intro ts h
  rw [hp, hp]
  exact tailP_congr (fun b r h0 => ho r (fuel_behind (hop ts b r h0) hk h))
    fun b r t r1 h0 h1 => ht r1 (fuel_behind (Nat.lt_trans (hy.lt h1) (hop ts b r h0)) (by decide) h)

theorem stb_succ {f : Nat} (ih : Stb f) : Stb (f + 1) where
  product := seqP_stable pProduct_succ 4 ih.parallel ih.prodTail (snd_all f).parallel
  parallel := seqP_stable pParallel_succ 3 ih.negation ih.parTail (snd_all f).negation
  power := seqP_stable pPower_succ 1 ih.atom ih.powTail (snd_all f).atom
  list := seqP_stable pList_succ 6 ih.expr ih.listTail (snd_all f).expr
  sumTail := tailP_stable pSumTail_succ (fun _ _ _ h => by rw [sumOp_eq_some h]; exact Nat.lt_succ_self _) 5 (by decide)
    ih.product ih.sumTail (snd_all f).product
  prodTail := tailP_stable pProdTail_succ (fun _ _ _ h => by rw [prodOp_eq_some h]; exact Nat.lt_succ_self _) 4 (by decide)
    ih.parallel ih.prodTail (snd_all f).parallel
  parTail := tailP_stable pParTail_succ (fun _ _ _ h => by rw [parOp_eq_some h]; exact Nat.lt_succ_of_lt (Nat.lt_succ_self _)) 3 (by decide)
    ih.negation ih.parTail (snd_all f).negation
  powTail := tailP_stable pPowTail_succ (fun _ b _ h => by rw [powOp_eq_some h]; cases b <;> simp <;> omega) 1 (by decide)
    ih.atom ih.powTail (snd_all f).atom
  listTail := tailP_stable pListTail_succ (fun _ _ _ h => by rw [listOp_eq_some h]; exact Nat.lt_succ_self _) 6 (by decide)
    ih.expr ih.listTail (snd_all f).expr
  expr := by
    intro ts h
    have key : ∀ lead ts1, 8 * ts1.length + 5 ≤ f →
        seqP (pProduct (f + 1) ts1) (pSumTail (f + 1)) (mkSum lead) = seqP (pProduct f ts1) (pSumTail f) (mkSum lead) :=
      fun lead ts1 hl => seqP_congr (ih.product _ hl) fun a r h1 =>
        ih.sumTail r (fuel_behind (Yields.lt (snd_all f).product h1) (by decide) (Nat.le_succ_of_le hl))
    rw [pExpr_succ, pExpr_succ]
    split
    · exact key _ _ (fuel_behind (Nat.lt_succ_self _) (by decide) h)
    · exact key _ _ (Nat.le_of_succ_le_succ h)
  negation := by
    intro ts h
    rw [pNegation_succ, pNegation_succ]
    split
    · rw [ih.power _ (fuel_behind (Nat.lt_succ_self _) (by decide) h)]
    · exact ih.power ts (Nat.le_of_succ_le_succ h)
  atom := by
    intro ts h
    rw [pAtom_succ, pAtom_succ]
    split
    · rfl
    · rw [ih.list _ (fuel_behind (Nat.lt_succ_of_lt (Nat.lt_succ_self _)) (by decide) h)]
    · rfl
    · rw [ih.expr _ (fuel_behind (Nat.lt_succ_self _) (by decide) h)]
    · rw [ih.list _ (fuel_behind (Nat.lt_succ_self _) (by decide) h)]
    · rfl

theorem stb_all : ∀ f, Stb f
  | 0 => by constructor <;> intro ts h <;> exact absurd h (Nat.not_succ_le_zero _)
  | f + 1 => stb_succ (stb_all f)

theorem pExpr_fuel_irrelevant (ts : List Tok) : ∀ (f : Nat), 8 * ts.length + 6 ≤ f → pExpr f ts = pExpr (8 * ts.length + 6) ts := by
  intro f hf
  induction hf with
  | refl => rfl
  | step hf ih => rw [(stb_all _).expr ts hf, ih]

theorem parseToks_of_pExpr {ts : List Tok} {t : T} {f : Nat} (hf : 8 * ts.length + 6 ≤ f) (h : pExpr f ts = some (t, [])) :
    parseToks ts = some t := by
  unfold parseToks
  rw [pExpr_fuel_irrelevant ts (20 * ts.length + 20) (by omega), ← pExpr_fuel_irrelevant ts f hf, h]

end C03
