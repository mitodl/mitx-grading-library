import Mitx.Parser.Syntax
namespace C03

def isWs (c : Char) : Bool := c == ' ' || c == '\t' || c == '\n' || c == '\r'
def isAlpha (c : Char) : Bool := ('a' ≤ c && c ≤ 'z') || ('A' ≤ c && c ≤ 'Z')
def isDigit (c : Char) : Bool := '0' ≤ c && c ≤ '9'
def isAlnum (c : Char) : Bool := isAlpha c || isDigit c
def minusChar (c : Char) : Bool := c == '-' || c == '—'

def takeWhile (p : Char → Bool) : List Char → List Char × List Char
  | c :: r => if p c then ((takeWhile p r).1.cons c, (takeWhile p r).2) else ([], c :: r)
  | [] => ([], [])

def word1 (p : Char → Bool) (s : List Char) : Option (List Char × List Char) :=
  let r := takeWhile p s
  if r.1.isEmpty then none else some r

def lexMantissa (s : List Char) : Option (List Char × List Char) :=
  match word1 isDigit s with
  | some (ds, r) =>
    match r with
    | '.' :: r1 =>
      match word1 isDigit r1 with
      | some (fs, r2) => some (ds ++ ['.'] ++ fs, r2)
      | none => some (ds ++ ['.'], r1)
    | _ => some (ds, r)
  | none =>
    match s with
    | '.' :: r1 =>
      match word1 isDigit r1 with
      | some (fs, r2) => some ('.' :: fs, r2)
      | none => none
    | _ => none

def lexExpSign (r1 : List Char) : List Char × List Char :=
  match r1 with
  | c :: r2 => if c == '+' then (['+'], r2) else if minusChar c then (['-'], r2) else ([], r1)
  | [] => ([], r1)

def lexNumText (s : List Char) : Option (List Char × List Char) :=
  match lexMantissa s with
  | none => none
  | some (txt, r) =>
    match r with
    | e :: r1 =>
      if e == 'e' || e == 'E' then
        let sg := lexExpSign r1
        match word1 isDigit sg.2 with
        | some (ds, r3) => some (txt ++ ['E'] ++ sg.1 ++ ds, r3)
        | none => some (txt, r)
      else some (txt, r)
    | [] => some (txt, r)

def optMinus (r : List Char) : List Char × List Char :=
  match r with
  | '-' :: r1 => (['-'], r1)
  | _ => ([], r)

def lexIndex (open1 : Char) (s : List Char) : Option (List Char × List Char) :=
  match s with
  | o :: '{' :: r =>
    if o == open1 then
      match word1 isAlnum (optMinus r).2 with
      | some (w, '}' :: r2) => some ([o, '{'] ++ (optMinus r).1 ++ w ++ ['}'], r2)
      | _ => none
    else none
  | _ => none

def orSkip (o : Option (List Char × List Char)) (r : List Char) : List Char × List Char :=
  match o with | some x => x | none => ([], r)

def lexIndices (r : List Char) : List Char × List Char :=
  let a := orSkip (lexIndex '_' r) r
  let b := orSkip (lexIndex '^' a.2) a.2
  (a.1 ++ b.1, b.2)

def lexNameMid (rest : List Char) : List Char × List Char :=
  match word1 (fun c => isAlnum c || c == '_') rest with
  | some (w, rr) =>
    match rr with
    | '{' :: _ => lexIndices rest
    | _ => (w, rr)
  | none => lexIndices rest

/-- name starting at an alphabetic char -/
def lexName (s : List Char) : List Char × List Char :=
  let fr := takeWhile isAlnum s
  let mid := lexNameMid fr.2
  let pr := takeWhile (· == '\'') mid.2
  (fr.1 ++ mid.1 ++ pr.1, pr.2)

/-- single-character tokens -/
def opTok (c : Char) : Option Tok :=
  if c == '+' then some .plus else if minusChar c then some .minus
  else if c == '*' then some .star else if c == '/' then some .slash
  else if c == '^' then some .caret else if c == '|' then some .pipe
  else if c == '(' then some .lp else if c == ')' then some .rp
  else if c == '[' then some .lb else if c == ']' then some .rb
  else if c == ',' then some .comma else none

def skipWs : List Char → List Char
  | c :: r => if isWs c then skipWs r else c :: r
  | [] => []

/-- lexer with fuel (input length suffices) -/
def lexAux : Nat → List Char → Option (List Tok)
  | 0, s => if (skipWs s).isEmpty then some [] else none
  | f+1, s =>
    match skipWs s with
    | [] => some []
    | c :: r =>
      if isDigit c || c == '.' then
        match lexNumText (c :: r) with
        | none => none
        | some (txt, r1) =>
          match word1 (fun c => isAlpha c || c == '%') (skipWs r1) with
          | some (suf, r2) => (lexAux f r2).map (Tok.num (String.ofList txt) (some (String.ofList suf)) :: ·)
          | none => (lexAux f r1).map (Tok.num (String.ofList txt) none :: ·)
      else if isAlpha c then
        let nm := lexName (c :: r)
        (lexAux f nm.2).map (Tok.name (String.ofList nm.1) :: ·)
      else
        match opTok c with
        | some t => (lexAux f r).map (t :: ·)
        | none => none

def lex (src : String) : Option (List Tok) :=
  let cs := src.toList.filter (· != ' ')
  lexAux (cs.length + 1) cs

/-! printing in pyparsing's shape -/
def q (s : String) : String := "\"" ++ s ++ "\""
partial def T.toStr : T → String
  | .num txt none => "[\"number\"," ++ q txt ++ "]"
  | .num txt (some s) => "[\"number\"," ++ q txt ++ "," ++ q s ++ "]"
  | .var s => "[\"variable\"," ++ q s ++ "]"
  | .call f args => "[\"function\"," ++ q f ++ ",[\"arguments\"" ++ String.join (args.map (fun a => "," ++ a.toStr)) ++ "]]"
  | .arr xs => "[\"array\"" ++ String.join (xs.map (fun a => "," ++ a.toStr)) ++ "]"
  | .paren t => "[\"parentheses\"," ++ t.toStr ++ "]"
  | .power b rest => "[\"power\"," ++ b.toStr ++ String.join (rest.map (fun p => (if p.1 then ",\"-\"" else "") ++ "," ++ p.2.toStr)) ++ "]"
  | .neg t => "[\"negation\",\"-\"," ++ t.toStr ++ "]"
  | .par a rest => "[\"parallel\"," ++ a.toStr ++ String.join (rest.map (fun p => "," ++ p.toStr)) ++ "]"
  | .prod a rest => "[\"product\"," ++ a.toStr ++ String.join (rest.map (fun p => (if p.1 then ",\"/\"" else ",\"*\"") ++ "," ++ p.2.toStr)) ++ "]"
  | .sum lead a rest => "[\"sum\"" ++ (if lead then ",\"+\"" else "") ++ "," ++ a.toStr ++ String.join (rest.map (fun p => (if p.1 then ",\"-\"" else ",\"+\"") ++ "," ++ p.2.toStr)) ++ "]"

def parseString (src : String) : Option T := (lex src).bind parseToks

end C03
