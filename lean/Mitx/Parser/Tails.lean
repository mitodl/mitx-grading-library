import Mitx.Parser.PA
/-! The equations of `evalP`, `evalL`, `expo`, and the parsers as `IsSeq` / `IsRep` with their empty-tail facts, from the
    equations in `Shape.lean`. (`sumToks`, `prodToks`, `uniform`: an operator chain as a list of signed items, with one fuel
    bound for all of them; the round trip builds chains with `LForm` of `Compose.lean` and does not use them.) -/
namespace C03
variable {V : Type} (A : Alg V)

abbrev Item (V : Type) := Bool × List Tok × V

def sumToks (items : List (Item V)) : List Tok :=
  items.flatMap (fun i => (if i.1 then Tok.minus else Tok.plus) :: i.2.1)
def prodToks (items : List (Item V)) : List Tok :=
  items.flatMap (fun i => (if i.1 then Tok.slash else Tok.star) :: i.2.1)

theorem sumToks_nil : sumToks ([] : List (Item V)) = [] := rfl
theorem prodToks_nil : prodToks ([] : List (Item V)) = [] := rfl
theorem sumToks_append (xs ys : List (Item V)) : sumToks (xs ++ ys) = sumToks xs ++ sumToks ys :=
  List.flatMap_append
theorem prodToks_append (xs ys : List (Item V)) : prodToks (xs ++ ys) = prodToks xs ++ prodToks ys :=
  List.flatMap_append

theorem evalP_nil : evalP A [] = [] := by simp [evalP]
theorem evalP_cons (b : Bool) (t : T) (ts : List (Bool × T)) : evalP A ((b, t) :: ts) = (b, evalT A t) :: evalP A ts := by
  simp [evalP]
theorem evalL_cons (t : T) (ts : List T) : evalL A (t :: ts) = evalT A t :: evalL A ts := by simp [evalL]

theorem expo_cons (s : Bool) (e : V) (rest : List (Bool × V)) :
    expo A ((s, e) :: rest) =
      some (if s then A.neg ((expo A rest).elim e (A.pow e)) else (expo A rest).elim e (A.pow e)) := by
  cases h : expo A rest <;> simp [expo, h]

/-- a uniform fuel bound for a list of phrases -/
theorem uniform {p : Nat → List Tok → Res T} {ok : List Tok → Prop} (items : List (List Tok × V))
    (h : ∀ i ∈ items, PA A p ok i.1 i.2) :
    ∃ F, ∀ i ∈ items, ∀ f, F ≤ f → ∀ rest, ok rest → ∃ t, p f (i.1 ++ rest) = some (t, rest) ∧ evalT A t = i.2 := by
  induction items with
  | nil => exact ⟨0, fun _ hx => nomatch hx⟩
  | cons y ys ih =>
    obtain ⟨F1, h1⟩ := h y (by simp)
    obtain ⟨F2, h2⟩ := ih (fun x hx => h x (by simp [hx]))
    refine ⟨max F1 F2, ?_⟩
    intro x hx f hf rest hr
    rcases List.mem_cons.mp hx with rfl | hx
    · exact h1 f (Nat.le_trans (Nat.le_max_left F1 F2) hf) rest hr
    · exact h2 x hx f (Nat.le_trans (Nat.le_max_right F1 F2) hf) rest hr

theorem pAtom_minus (f : Nat) (r : List Tok) : pAtom f (.minus :: r) = none := by
  cases f <;> rfl
theorem pPower_minus (f : Nat) (r : List Tok) : pPower f (.minus :: r) = none := by
  rcases f with _ | _ | f <;> rfl
theorem pProduct_plus (f : Nat) (r : List Tok) : pProduct f (.plus :: r) = none := by
  -- five levels of fuel: product → parallel → negation → power → atom
  rcases f with _ | _ | _ | _ | _ | f <;> rfl

theorem pPower_seq : IsSeq pPower pAtom pPowTail mkPower := .of_seqP pPower_succ
theorem pParallel_seq : IsSeq pParallel pNegation pParTail mkPar := .of_seqP pParallel_succ
theorem pProduct_seq : IsSeq pProduct pParallel pProdTail mkProd := .of_seqP pProduct_succ
theorem pList_seq : IsSeq pList pExpr pListTail List.cons := .of_seqP pList_succ
theorem pExpr_seq : IsSeq pExpr pProduct pSumTail (mkSum false) := by
  intro f ts x hx
  rw [pExpr_succ]
  split
  · rw [pProduct_plus] at hx; cases hx
  · rw [hx]

theorem pNegation_of_pPower {f : Nat} {ts : List Tok} {x : T × List Tok} (h : pPower f ts = some x) :
    pNegation (f+1) ts = some x := by
  rw [pNegation_succ]
  split
  · rw [pPower_minus] at h; cases h
  · exact h

theorem pSumTail_rep (s : Bool) : IsRep pSumTail [if s then .minus else .plus] pProduct (s, ·) :=
  .of_tailP pSumTail_succ (by cases s <;> intros <;> rfl)
theorem pProdTail_rep (s : Bool) : IsRep pProdTail [if s then .slash else .star] pParallel (s, ·) :=
  .of_tailP pProdTail_succ (by cases s <;> intros <;> rfl)
theorem pParTail_rep : IsRep pParTail [.pipe, .pipe] pNegation id :=
  .of_tailP (b := ()) pParTail_succ fun _ _ _ _ => rfl
theorem pListTail_rep : IsRep pListTail [.comma] pExpr id :=
  .of_tailP (b := ()) pListTail_succ fun _ _ _ _ => rfl
theorem pPowTail_rep (s : Bool) : IsRep pPowTail (.caret :: if s then [.minus] else []) pAtom (s, ·) :=
  .of_tailP pPowTail_succ fun f ts x hx => by
    cases s
    · -- `^ -` is looked for first, but an atom does not start with `-`
      cases ts with
      | nil => rfl
      | cons t r => cases t <;> first | rfl | (rw [pAtom_minus] at hx; cases hx)
    · rfl

theorem tailP_nil {β ι : Type} {q : Nat → List Tok → Res (List β)} {o : Nat → List Tok → Res T} {ok : List Tok → Prop}
    {view : List Tok → Option (ι × List Tok)} {mk : ι → T → β}
    (h : ∀ f ts, q (f+1) ts = tailP (view ts) ts (o f) (q f) mk)
    (hv : ∀ {ts b r}, view ts = some (b, r) → ¬ ok ts) (f : Nat) (r : List Tok) (hr : ok r) :
    q (f+1) r = some ([], r) := by
  rw [h]
  rcases hv' : view r with _ | ⟨b, r'⟩
  · rfl
  · exact absurd hr (hv hv')

theorem pPowTail_nil : ∀ f r, ok4 r → pPowTail (f+1) r = some ([], r) :=
  tailP_nil pPowTail_succ fun h => (powOp_follow h).1
theorem pParTail_nil : ∀ f r, ok2 r → pParTail (f+1) r = some ([], r) :=
  tailP_nil pParTail_succ fun h => (parOp_follow h).1
theorem pProdTail_nil : ∀ f r, ok1 r → pProdTail (f+1) r = some ([], r) :=
  tailP_nil pProdTail_succ fun h => (prodOp_follow h).1
theorem pSumTail_nil : ∀ f r, ok0 r → pSumTail (f+1) r = some ([], r) :=
  tailP_nil pSumTail_succ fun h => (sumOp_follow h).1
theorem pListTail_nil : ∀ f r, okL r → pListTail (f+1) r = some ([], r) :=
  tailP_nil pListTail_succ fun h => (listOp_follow h).1

end C03
