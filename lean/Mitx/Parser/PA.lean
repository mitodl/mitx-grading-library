import Mitx.Parser.Sem
import Mitx.Parser.Shape
import Mitx.Parser.Follow
/-! `PA A p ok L v` is `Ph p ok L (evalT A · = v)`; tails and argument lists return lists, hence `Ph`. One bound on the
    fuel serves all continuations. -/
namespace C03
variable {V : Type} (A : Alg V)

/-- "L is a complete phrase for parser `p` with value `v`, whatever follows (subject to `ok`)" -/
def PA (p : Nat → List Tok → Res T) (ok : List Tok → Prop) (L : List Tok) (v : V) : Prop :=
  ∃ F, ∀ f, F ≤ f → ∀ rest, ok rest → ∃ t, p f (L ++ rest) = some (t, rest) ∧ evalT A t = v

abbrev PA5 := PA A pAtom ok5
abbrev PA4 := PA A pPower ok4
abbrev PA3 := PA A pNegation ok4
abbrev PA2 := PA A pParallel ok2
abbrev PA1 := PA A pProduct ok1
abbrev PA0 := PA A pExpr ok0

/-- `PA` for any result type and any property `P` of the result -/
def Ph {α : Type} (p : Nat → List Tok → Res α) (ok : List Tok → Prop) (L : List Tok) (P : α → Prop) : Prop :=
  ∃ F, ∀ f, F ≤ f → ∀ rest, ok rest → ∃ a, p f (L ++ rest) = some (a, rest) ∧ P a

/-- a phrase of the repetition `q` such that the operand before it (continuation `okp`) may end in front of it -/
def Tail {β : Type} (q : Nat → List Tok → Res β) (ok okp : List Tok → Prop) (M : List Tok) (Q : β → Prop) : Prop :=
  Ph q ok M Q ∧ ∀ rest, ok rest → okp (M ++ rest)

/-- for inputs on which `p` succeeds: that covers `pExpr`, which first looks for a `+` that no operand starts with -/
def IsSeq {β γ : Type} (r : Nat → List Tok → Res γ) (p : Nat → List Tok → Res T) (q : Nat → List Tok → Res β)
    (g : T → β → γ) : Prop :=
  ∀ f ts x, p f ts = some x → r (f+1) ts = seqP (some x) (q f) g

/-- behind the separator `op`, `q` reads an operand with `p` and goes on with itself -/
def IsRep {β : Type} (q : Nat → List Tok → Res (List β)) (op : List Tok) (p : Nat → List Tok → Res T) (c : T → β) : Prop :=
  IsSeq (fun f ts => q f (op ++ ts)) p q fun t l => c t :: l

section
variable {α β γ : Type} {p : Nat → List Tok → Res α} {q : Nat → List Tok → Res β} {r : Nat → List Tok → Res γ}
  {okp okq ok : List Tok → Prop} {L M N : List Tok} {P : α → Prop} {Q : β → Prop} {R : γ → Prop}

/-- the one place where the fuel is shifted: it is enough to find the phrase with one more unit of fuel -/
theorem Ph.of_succ (h : ∃ F, ∀ f, F ≤ f → ∀ rest, ok rest → ∃ a, p (f+1) (L ++ rest) = some (a, rest) ∧ P a) :
    Ph p ok L P :=
  let ⟨F, hF⟩ := h
  ⟨F + 1, fun
    | 0, hf => absurd hf (Nat.not_succ_le_zero F)
    | f+1, hf => hF f (Nat.le_of_succ_le_succ hf)⟩

theorem Ph.step₀ (h : ∀ f rest, ok rest → ∃ a, p (f+1) (L ++ rest) = some (a, rest) ∧ P a) : Ph p ok L P :=
  .of_succ ⟨0, fun f _ => h f⟩

theorem Ph.step₁ {S : List Tok} (hp : Ph p okp L P) (hok : ∀ rest, ok rest → okp (S ++ rest))
    (h : ∀ f rest a, p f (L ++ (S ++ rest)) = some (a, S ++ rest) → P a →
      ∃ b, q (f+1) (N ++ rest) = some (b, rest) ∧ Q b) : Ph q ok N Q :=
  let ⟨F, hF⟩ := hp
  .of_succ ⟨F, fun f hf rest hr =>
    let ⟨a, ha, hPa⟩ := hF f hf _ (hok rest hr)
    h f rest a ha hPa⟩

variable {o : Nat → List Tok → Res T} {O : T → Prop} {β' : Type} {q' : Nat → List Tok → Res (List β')}
  {Q' R' : List β' → Prop} {ι : Type} {view : List Tok → Option (ι × List Tok)} {mk : ι → T → β'}

theorem IsSeq.of_seqP {g : T → β → γ} (h : ∀ f ts, r (f+1) ts = seqP (o f ts) (q f) g) : IsSeq r o q g :=
  fun f ts x hx => by rw [h, hx]

theorem IsRep.of_tailP {op : List Tok} {b : ι} (h : ∀ f ts, q' (f+1) ts = tailP (view ts) ts (o f) (q' f) mk)
    (hv : ∀ f ts x, o f ts = some x → view (op ++ ts) = some (b, ts)) : IsRep q' op o (mk b) :=
  fun f ts x hx => by
    show q' (f+1) (op ++ ts) = _
    rw [h, hv f ts x hx]
    simp only [tailP, hx]

theorem Ph.seq {g : T → β → γ} (hr : IsSeq r o q g) (hp : Ph o okp L O) (hq : Tail q ok okp M Q)
    (hR : ∀ a b, O a → Q b → R (g a b)) : Ph r ok (L ++ M) R := by
  obtain ⟨F1, h1⟩ := hp
  obtain ⟨⟨F2, h2⟩, hok⟩ := hq
  refine .of_succ ⟨max F1 F2, fun f hf rest hrest => ?_⟩
  obtain ⟨a, ha, hOa⟩ := h1 f (by omega) _ (hok rest hrest)
  obtain ⟨b, hb, hQb⟩ := h2 f (by omega) _ hrest
  exact ⟨g a b, by rw [List.append_assoc, hr f _ _ ha]; simp only [seqP, hb], hR a b hOa hQb⟩

theorem Tail.nil (h : ∀ f rest, ok rest → q' (f+1) rest = some ([], rest)) (hok : ∀ rest, ok rest → okp rest)
    (hR : R' []) : Tail q' ok okp [] R' :=
  ⟨Ph.step₀ fun f rest hr => ⟨[], h f rest hr, hR⟩, hok⟩

theorem Tail.cons {op : List Tok} {c : T → β'} (hq : IsRep q' op o c) (hop : ∀ rest, okp (op ++ rest))
    (hp : Ph o okp L O) (hM : Tail q' ok okp M Q') (hR : ∀ a l, O a → Q' l → R' (c a :: l)) :
    Tail q' ok okp (op ++ L ++ M) R' :=
  ⟨(Ph.seq hq hp hM hR).imp fun F h f hf rest hr => by simpa only [List.append_assoc] using h f hf rest hr,
   fun rest _ => by rw [List.append_assoc, List.append_assoc]; exact hop _⟩

variable {A} in
theorem Ph.bracket {v : V} {pre : List Tok} {cl : Tok} {mk : α → T} (hp : Ph p okp L P) (hcl : ∀ rest, okp (cl :: rest))
    (hA : ∀ f ts a r, p f ts = some (a, cl :: r) → pAtom (f+1) (pre ++ ts) = some (mk a, r))
    (hv : ∀ a, P a → evalT A (mk a) = v) : PA5 A (pre ++ L ++ [cl]) v :=
  hp.step₁ (S := [cl]) (fun rest _ => hcl rest) fun f rest a ha hPa =>
    ⟨mk a, by simpa using hA f _ a rest ha, hv a hPa⟩
end

end C03
