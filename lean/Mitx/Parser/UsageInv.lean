import Mitx.Parser.UsageShape
import Mitx.Parser.Follow
/-! The usage invariant `InvG`: a parser's scratch grew by exactly the names of its result, or what is left of the input
    dooms the caller. Proved once per parser shape (`seqQ_inv`, `tailQ_inv`) and instantiated; `usage_exact` follows. -/
namespace C03

/-- `sc'` holds what `sc` held and the names `nm`, nothing else -/
def Clean (sc sc' nm : Sc) : Prop := ∀ x, x ∈ sc' ↔ x ∈ sc ∨ x ∈ nm

theorem Clean.refl (sc : Sc) : Clean sc sc [] := fun x => by simp
theorem Clean.trans {sc sc1 sc2 n1 n2 : Sc} (h1 : Clean sc sc1 n1) (h2 : Clean sc1 sc2 n2) : Clean sc sc2 (n1 ++ n2) := by
  intro x; rw [h2 x, h1 x]; simp [or_assoc]
theorem Clean.snoc (sc : Sc) (y : Kind × String) : Clean sc (sc ++ [y]) [y] := fun x => by simp
theorem Clean.addSuf (sc : Sc) (s : Option String) : Clean sc (addSuf sc s) (addSuf [] s) := by
  cases s <;> simp [C03.addSuf, Clean]

theorem names_mkSum (l : Bool) (a : T) (rest : List (Bool × T)) : names (mkSum l a rest) = names a ++ namesP rest := by
  cases l
  · exact apply_mk names namesP a _ rest rfl rfl
  · rfl
theorem names_mkProd (a : T) (rest : List (Bool × T)) : names (mkProd a rest) = names a ++ namesP rest :=
  apply_mk names namesP a _ rest rfl rfl
theorem names_mkPar (a : T) (rest : List T) : names (mkPar a rest) = names a ++ namesL rest :=
  apply_mk names namesL a _ rest rfl rfl
theorem names_mkPower (a : T) (rest : List (Bool × T)) : names (mkPower a rest) = names a ++ namesP rest :=
  apply_mk names namesP a _ rest rfl rfl

/-- result invariant: either the scratch grew by exactly the names of the result, or the unconsumed
    input starts with a token the caller cannot consume (so the whole parse is doomed) -/
def InvG {α : Type} (nm : α → Sc) (ok : List Tok → Prop) (sc : Sc) : QRes α → Prop
  | (some (t, rest), sc') => Clean sc sc' (nm t) ∨ ¬ ok rest
  | (none, _) => True
abbrev InvT := InvG names
abbrev InvP := InvG namesP
abbrev InvL := InvG namesL

/-- with fuel `f`, each usage-tracking parser satisfies `InvG` at the follow set (`ok…`) of its level -/
structure Inv (f : Nat) : Prop where
  expr : ∀ ts sc, InvT ok0 sc (qExpr f ts sc)
  sumTail : ∀ ts sc, InvP ok0 sc (qSumTail f ts sc)
  product : ∀ ts sc, InvT ok1 sc (qProduct f ts sc)
  prodTail : ∀ ts sc, InvP ok1 sc (qProdTail f ts sc)
  parallel : ∀ ts sc, InvT ok2 sc (qParallel f ts sc)
  parTail : ∀ ts sc, InvL ok2 sc (qParTail f ts sc)
  negation : ∀ ts sc, InvT ok4 sc (qNegation f ts sc)
  power : ∀ ts sc, InvT ok4 sc (qPower f ts sc)
  powTail : ∀ ts sc, InvP ok4 sc (qPowTail f ts sc)
  list : ∀ ts sc, InvL okL sc (qList f ts sc)
  listTail : ∀ ts sc, InvL okL sc (qListTail f ts sc)
  atom : ∀ ts sc, InvT ok5 sc (qAtom f ts sc)

/-- `q` does nothing on inputs that `ok` excludes: it fails or returns the empty list, input and scratch untouched -/
def Idle {γ : Type} (ok : List Tok → Prop) (q : List Tok → Sc → QRes (List γ)) : Prop :=
  ∀ r sc, ¬ ok r → q r sc = (none, sc) ∨ q r sc = (some ([], r), sc)

theorem tailQ_idle {β γ ok} {p : Nat → List Tok → Sc → QRes (List γ)} {operand : Nat → List Tok → Sc → QRes T}
    {op : List Tok → Option (β × List Tok)} {mk : β → T → γ}
    (hp0 : ∀ ts sc, p 0 ts sc = (none, sc)) (hp : ∀ f ts sc, p (f + 1) ts sc = tailQ (op ts) ts (operand f) (p f) mk sc)
    (hop : ∀ r b r', op r = some (b, r') → ok r) : ∀ f, Idle ok (p f)
  | 0, r, sc, _ => Or.inl (hp0 r sc)
  | f + 1, r, sc, h => by
    right; rw [hp]
    rcases ho : op r with _ | ⟨b, r'⟩
    · rfl
    · exact absurd (hop r b r' ho) h

theorem qPowTail_idle : ∀ f, Idle ok5 (qPowTail f) :=
  tailQ_idle (fun _ _ => rfl) qPowTail_succ fun _ _ _ ho => (powOp_follow ho).2
theorem qParTail_idle : ∀ f, Idle ok4 (qParTail f) :=
  tailQ_idle (fun _ _ => rfl) qParTail_succ fun _ _ _ ho => (parOp_follow ho).2
theorem qProdTail_idle : ∀ f, Idle ok2 (qProdTail f) :=
  tailQ_idle (fun _ _ => rfl) qProdTail_succ fun _ _ _ ho => (prodOp_follow ho).2
theorem qSumTail_idle : ∀ f, Idle ok1 (qSumTail f) :=
  tailQ_idle (fun _ _ => rfl) qSumTail_succ fun _ _ _ ho => (sumOp_follow ho).2
theorem qListTail_idle : ∀ f, Idle ok0 (qListTail f) :=
  tailQ_idle (fun _ _ => rfl) qListTail_succ fun _ _ _ ho => (listOp_follow ho).2

theorem seqQ_inv {γ β nmL nmB okHi okLo sc head tailf} {mk : T → List γ → β} (follow_mono : ∀ r, okLo r → okHi r)
    (names_mk : ∀ a rest, nmB (mk a rest) = names a ++ nmL rest) (ih_head : InvT okHi sc head)
    (ih_tail : ∀ r sc1, InvG nmL okLo sc1 (tailf r sc1)) (idle : Idle okHi tailf) :
    InvG nmB okLo sc (seqQ head tailf mk) := by
  unfold seqQ
  rcases head with ⟨_ | ⟨a, r⟩, sc1⟩
  · trivial
  · rcases ih_head with hc | hst
    · have hthis := ih_tail r sc1
      dsimp only
      generalize tailf r sc1 = res at hthis ⊢
      rcases res with ⟨_ | ⟨rest, r'⟩, sc2⟩
      · trivial
      · rcases hthis with hc2 | hst2
        · exact Or.inl (names_mk a rest ▸ hc.trans hc2)
        · exact Or.inr hst2
    · dsimp only
      rcases idle r sc1 hst with h | h <;> rw [h]
      · trivial
      · exact Or.inr (mt (follow_mono r) hst)

/-- `step`: the parser's `_succ` equation -/
theorem tailQ_inv {β γ nmL okHi okLo sc op ts operand tailf x} {mk : β → T → γ} (follow_mono : ∀ r, okLo r → okHi r)
    (sep_not_follow : ∀ b r, op = some (b, r) → ¬ okLo ts)
    (names_nil : nmL [] = []) (names_cons : ∀ b t l, nmL (mk b t :: l) = names t ++ nmL l)
    (ih_operand : ∀ r, InvT okHi sc (operand r sc)) (ih_tail : ∀ r sc1, InvG nmL okLo sc1 (tailf r sc1)) (idle : Idle okHi tailf)
    (step : x = tailQ op ts operand tailf mk sc) : InvG nmL okLo sc x := by
  subst step
  unfold tailQ
  rcases op with _ | ⟨b, r⟩
  · exact Or.inl (names_nil ▸ Clean.refl sc)
  · have ih_operand := ih_operand r
    dsimp only
    generalize operand r sc = res at ih_operand ⊢
    rcases res with ⟨_ | ⟨a, r⟩, sc1⟩
    · exact Or.inr (sep_not_follow b _ rfl)
    · rw [iterQ_some]
      exact seqQ_inv follow_mono (names_cons b) ih_operand ih_tail idle


theorem inv_succ {f : Nat} (h : Inv f) : Inv (f + 1) where
  product := fun ts sc =>
    seqQ_inv @ok2_of_ok1 names_mkProd (h.parallel ts sc) h.prodTail (qProdTail_idle f)
  parallel := fun ts sc =>
    seqQ_inv @ok4_of_ok2 names_mkPar (h.negation ts sc) h.parTail (qParTail_idle f)
  power := fun ts sc =>
    seqQ_inv @ok5_of_ok4 names_mkPower (h.atom ts sc) h.powTail (qPowTail_idle f)
  list := fun ts sc =>
    seqQ_inv (nmB := namesL) (fun _ => And.left) (fun _ _ => rfl) (h.expr ts sc) h.listTail (qListTail_idle f)
  sumTail := fun ts sc =>
    tailQ_inv @ok1_of_ok0 (fun _ _ ho => (sumOp_follow ho).1) rfl (fun _ _ _ => rfl)
      (fun r => h.product r sc) h.sumTail (qSumTail_idle f) (qSumTail_succ f ts sc)
  prodTail := fun ts sc =>
    tailQ_inv @ok2_of_ok1 (fun _ _ ho => (prodOp_follow ho).1) rfl (fun _ _ _ => rfl)
      (fun r => h.parallel r sc) h.prodTail (qProdTail_idle f) (qProdTail_succ f ts sc)
  parTail := fun ts sc =>
    tailQ_inv @ok4_of_ok2 (fun _ _ ho => (parOp_follow ho).1) rfl (fun _ _ _ => rfl)
      (fun r => h.negation r sc) h.parTail (qParTail_idle f) (qParTail_succ f ts sc)
  powTail := fun ts sc =>
    tailQ_inv @ok5_of_ok4 (fun _ _ ho => (powOp_follow ho).1) rfl (fun _ _ _ => rfl)
      (fun r => h.atom r sc) h.powTail (qPowTail_idle f) (qPowTail_succ f ts sc)
  listTail := fun ts sc =>
    tailQ_inv (fun _ => And.left) (fun _ _ ho => (listOp_follow ho).1) rfl (fun _ _ _ => rfl)
      (fun r => h.expr r sc) h.listTail (qListTail_idle f) (qListTail_succ f ts sc)
  expr := fun ts sc => by
    rw [qExpr_succ]
    split <;> exact seqQ_inv @ok1_of_ok0 (names_mkSum _) (h.product _ sc) h.sumTail (qSumTail_idle f)
  negation := fun ts sc => by
    rw [qNegation_succ]
    split
    · next r =>
      have hp := h.power r sc
      split
      · trivial
      · next heq => rw [heq] at hp; exact hp
    · exact h.power ts sc
  atom := fun ts sc => by
    rw [qAtom_succ]
    split
    · exact Or.inl (Clean.addSuf sc _)
    · next s r =>
      have hl := h.list r sc
      split
      · next heq =>
        rw [heq] at hl
        -- the list did not stop short: a closing bracket is in its follow set `okL`
        exact Or.inl ((hl.resolve_right fun hn => hn ⟨trivial, Tok.noConfusion⟩).trans (Clean.snoc _ _))
      · exact Or.inr id
    · exact Or.inl (Clean.snoc sc _)
    · next r =>
      have he := h.expr r sc
      split
      · next heq => rw [heq] at he; exact Or.inl (he.resolve_right fun hn => hn trivial)
      · trivial
    · next r =>
      have hl := h.list r sc
      split
      · next heq => rw [heq] at hl; exact Or.inl (hl.resolve_right fun hn => hn ⟨trivial, Tok.noConfusion⟩)
      · trivial
    · trivial

theorem inv_all : ∀ f, Inv f
  | 0 => by constructor <;> intro _ _ <;> exact trivial
  | f+1 => inv_succ (inv_all f)

/-- **Usage exactness.** Whenever a parse succeeds, the scratch sets filled by the parse actions — including
    those fired inside alternatives and repetitions that were later abandoned — contain exactly the names
    occurring in the resulting tree: none missing, none spurious, kinds never confused. -/
theorem usage_exact {ts : List Tok} {t : T} {sc : Sc} (h : parseUsage ts = some (t, sc)) :
    ∀ x, x ∈ sc ↔ x ∈ names t := by
  unfold parseUsage at h
  have hi := (inv_all (20 * ts.length + 20)).expr ts []
  generalize qExpr (20 * ts.length + 20) ts [] = res at h hi
  obtain ⟨_ | ⟨t', _ | _⟩, sc'⟩ := res <;> cases h
  intro x
  rw [(hi.resolve_right fun hn => hn trivial) x, List.mem_nil_iff, false_or]

end C03
#print axioms C03.usage_exact
