import Mitx.Parser.Tails
/-! Each level from the level below by `Ph.seq`; the empty tail gives the step to the next looser level. -/
namespace C03
variable {V : Type} (A : Alg V)

theorem evalT_mkSum (a : T) (l : List (Bool × T)) :
    evalT A (mkSum false a l) = (evalP A l).foldl (sumStep A) (evalT A a) := by
  cases l <;> simp [mkSum, evalT, evalP]
theorem evalT_mkProd (a : T) (l : List (Bool × T)) :
    evalT A (mkProd a l) = (evalP A l).foldl (prodStep A) (evalT A a) := by
  cases l <;> simp [mkProd, evalT, evalP]
theorem evalT_mkPar (a : T) (l : List T) :
    evalT A (mkPar a l) = if (evalL A l).isEmpty then evalT A a else A.par (evalT A a :: evalL A l) := by
  cases l <;> simp [mkPar, evalT, evalL]
theorem evalT_mkPower (a : T) (l : List (Bool × T)) :
    evalT A (mkPower a l) = (expo A (evalP A l)).elim (evalT A a) (A.pow (evalT A a)) := by
  cases l with
  | nil => simp [mkPower, evalP, expo]
  | cons x xs => simp only [mkPower, List.isEmpty_cons, Bool.false_eq_true, ↓reduceIte, evalT]; split <;> simp [*]

/-- `a₀ op a₁ … op aₙ`, built by adding operands on the right -/
inductive LForm (P : List Tok → V → Prop) (tk : Bool → Tok) (step : V → Bool × V → V) : List Tok → V → Prop
  | base {L v} : P L v → LForm P tk step L v
  | snoc {L v M w} (s : Bool) : LForm P tk step L v → P M w → LForm P tk step (L ++ tk s :: M) (step v (s, w))

/-- The renderer adds operands on the right, the parser reads the chain from its other end: the induction needs a tail `M`
    (of values `xs`) still to come. `hr`, `hq`, `hnil`: the shape of `r` and of its tail `q`; `hok`, `hop`: an operand may end
    where the chain may, and in front of an operator; `hmk`: the node evaluates to the left fold. -/
theorem LForm.phrase {p r : Nat → List Tok → Res T} {q : Nat → List Tok → Res (List (Bool × T))}
    {okp ok : List Tok → Prop} {tk : Bool → Tok} {step : V → Bool × V → V} {mk : T → List (Bool × T) → T}
    (hr : IsSeq r p q mk) (hq : ∀ s, IsRep q [tk s] p (s, ·)) (hnil : ∀ f rest, ok rest → q (f+1) rest = some ([], rest))
    (hok : ∀ rest, ok rest → okp rest) (hop : ∀ s rest, okp (tk s :: rest))
    (hmk : ∀ a l, evalT A (mk a l) = (evalP A l).foldl step (evalT A a))
    {L : List Tok} {v : V} (h : LForm (PA A p okp) tk step L v) : PA A r ok L v := by
  have key : ∀ {M xs}, Tail q ok okp M (evalP A · = xs) → PA A r ok (L ++ M) (xs.foldl step v) := by
    induction h with
    | base h0 =>
      intro M xs hM
      exact Ph.seq hr h0 hM fun a l ha hl => by rw [hmk, ha, hl]
    | @snoc L v M' w s _ hw ih =>
      intro M xs hM
      have := ih (Tail.cons (hq s) (hop s) hw hM fun a l ha hl => by rw [evalP_cons, ha, hl])
      simpa using this
  simpa using key (xs := []) (Tail.nil hnil hok rfl)

abbrev SumForm := LForm (PA1 A) (fun s => if s then .minus else .plus) (sumStep A)
abbrev ProdForm := LForm (PA2 A) (fun s => if s then .slash else .star) (prodStep A)

variable {L M : List Tok} {v : V}

theorem SumForm.pa0 (h : SumForm A L v) : PA0 A L v :=
  LForm.phrase A pExpr_seq pSumTail_rep pSumTail_nil (fun _ => ok1_of_ok0) (fun s _ => by cases s <;> trivial)
    (evalT_mkSum A) h
theorem ProdForm.pa1 (h : ProdForm A L v) : PA1 A L v :=
  LForm.phrase A pProduct_seq pProdTail_rep pProdTail_nil (fun _ => ok2_of_ok1) (fun s _ => by cases s <;> trivial)
    (evalT_mkProd A) h

/-- `o` is the value of the tower `^ e₁ ^ e₂ …`, `none` for the empty tail -/
def ExpTail (M : List Tok) (o : Option V) : Prop := Tail pPowTail ok4 ok5 M (fun l => expo A (evalP A l) = o)

theorem ExpTail.nil : ExpTail A [] none := Tail.nil pPowTail_nil (fun _ => ok5_of_ok4) rfl

theorem ExpTail.cons {o : Option V} (s : Bool) (h : PA5 A L v) (hM : ExpTail A M o) :
    ExpTail A (.caret :: (if s then [.minus] else []) ++ L ++ M)
      (some (if s then A.neg (o.elim v (A.pow v)) else o.elim v (A.pow v))) :=
  Tail.cons (pPowTail_rep s) (fun _ => trivial) h hM fun a l ha hl => by rw [evalP_cons, expo_cons, ha, hl]

theorem pow_phrase {o : Option V} (h : PA5 A L v) (hM : ExpTail A M o) : PA4 A (L ++ M) (o.elim v (A.pow v)) :=
  Ph.seq pPower_seq h hM fun a l ha hl => by rw [evalT_mkPower, ha, hl]

theorem pa4_of_pa5 (h : PA5 A L v) : PA4 A L v := by
  simpa using pow_phrase A h (ExpTail.nil A)

/-- `L` may stand after a `^`, with value `v` -/
def PowX (L : List Tok) (v : V) : Prop := ExpTail A (.caret :: L) (some v)

theorem PowX.last (s : Bool) (h : PA5 A L v) :
    PowX A ((if s then [.minus] else []) ++ L) (if s then A.neg v else v) := by
  simpa [PowX] using ExpTail.cons A s h (ExpTail.nil A)
theorem PowX.cons (s : Bool) {Le : List Tok} {ve : V} (h : PA5 A L v) (he : PowX A Le ve) :
    PowX A ((if s then [.minus] else []) ++ L ++ .caret :: Le) (if s then A.neg (A.pow v ve) else A.pow v ve) := by
  simpa [PowX] using ExpTail.cons A s h he

theorem pa3_of_pa4 (h : PA4 A L v) : PA3 A L v :=
  Ph.step₁ (S := []) h (fun _ hr => hr) fun _ _ t ht hv => ⟨t, pNegation_of_pPower ht, hv⟩

theorem pa3_neg (h : PA4 A L v) : PA3 A (.minus :: L) (A.neg v) :=
  Ph.step₁ (S := []) h (fun _ hr => hr) fun f rest t ht hv =>
    ⟨.neg t, by simp [pNegation_succ, show pPower f (L ++ rest) = some (t, rest) from ht], by simp [evalT, hv]⟩

theorem par_phrase {vs : List V} (h : PA3 A L v) (hM : Tail pParTail ok2 ok4 M (evalL A · = vs)) :
    PA2 A (L ++ M) (if vs.isEmpty then v else A.par (v :: vs)) :=
  Ph.seq pParallel_seq h hM fun a l ha hl => by rw [evalT_mkPar, ha, hl]

theorem pa2_of_pa3 (h : PA3 A L v) : PA2 A L v := by
  simpa using par_phrase A (vs := []) h (Tail.nil pParTail_nil (fun _ => ok4_of_ok2) rfl)

theorem pa5_paren (h : PA0 A L v) : PA5 A (Tok.lp :: L ++ [Tok.rp]) v :=
  Ph.bracket (pre := [.lp]) (mk := .paren) h (fun _ => trivial) (fun f ts a r h => by simp [pAtom_succ, h])
    (fun a ha => by simpa [evalT] using ha)

theorem pa5_num (txt : String) (suf : Option String) : PA5 A [Tok.num txt suf] (A.num txt suf) :=
  Ph.step₀ fun f rest _ => ⟨.num txt suf, by simp [pAtom_succ], by simp [evalT]⟩

theorem pa5_var (s : String) : PA5 A [Tok.name s] (A.var s) :=
  Ph.step₀ fun f rest hr => ⟨.var s, by
    -- a name followed by `(` would be tried as a call
    cases rest with
    | nil => rfl
    | cons t r => cases t <;> first | rfl | exact hr.elim, by simp [evalT]⟩

end C03
