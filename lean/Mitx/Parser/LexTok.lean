import Mitx.Parser.Lex
/-! `lexAux` skips blanks, reads one token with `lexTok`, and repeats; `lexAux` is unfolded only in `lexAux_zero` and
    `lexAux_succ`, and `LexReject` and `LexPrint` reason about `lexTok`, token by token. Core Lean only. -/
namespace C03

theorem takeWhile_append (p : Char → Bool) (s : List Char) : (takeWhile p s).1 ++ (takeWhile p s).2 = s := by
  induction s with
  | nil => rfl
  | cons c r ih => simp only [takeWhile]; split <;> simp [ih]

theorem takeWhile_length (p : Char → Bool) (s : List Char) : (takeWhile p s).2.length ≤ s.length := by
  have := congrArg List.length (takeWhile_append p s)
  rw [List.length_append] at this
  omega

theorem takeWhile_all (p : Char → Bool) (s : List Char) : ∀ c ∈ (takeWhile p s).1, p c = true := by
  induction s with
  | nil => simp [takeWhile]
  | cons c r ih =>
    simp only [takeWhile]
    split
    · simpa [*] using ih
    · simp

theorem takeWhile_stop {p : Char → Bool} {r : List Char} (hr : ∀ c ∈ r.head?, p c = false) : takeWhile p r = ([], r) := by
  cases r with
  | nil => rfl
  | cons c r => simp [takeWhile, hr c rfl]

theorem takeWhile_eq {p : Char → Bool} {w r : List Char} (hw : ∀ c ∈ w, p c = true) (hr : ∀ c ∈ r.head?, p c = false) :
    takeWhile p (w ++ r) = (w, r) := by
  induction w with
  | nil => exact takeWhile_stop hr
  | cons a w ih =>
    rw [List.cons_append, takeWhile, if_pos (hw a (List.mem_cons_self ..)), ih fun c hc => hw c (List.mem_cons_of_mem _ hc)]

theorem word1_eq_some {p : Char → Bool} {s : List Char} {x : List Char × List Char} (h : word1 p s = some x) :
    x = takeWhile p s := by
  simp only [word1] at h
  split at h
  · cases h
  · exact (Option.some.inj h).symm

theorem word1_eq {p : Char → Bool} {w r : List Char} (hne : w ≠ []) (hw : ∀ c ∈ w, p c = true)
    (hr : ∀ c ∈ r.head?, p c = false) : word1 p (w ++ r) = some (w, r) := by
  simp [word1, takeWhile_eq hw hr, hne]

theorem word1_none {p : Char → Bool} {r : List Char} (hr : ∀ c ∈ r.head?, p c = false) : word1 p r = none := by
  simp [word1, takeWhile_stop hr]

theorem skipWs_eq (s : List Char) : skipWs s = (takeWhile isWs s).2 := by
  induction s with
  | nil => rfl
  | cons c r ih => simp only [skipWs, takeWhile]; split <;> simp [ih]

def opChars : List Char := ['+', '-', '—', '*', '/', '^', '|', '(', ')', '[', ']', ',']

theorem opTok_eq_none {c : Char} (h : c ∉ opChars) : opTok c = none := by
  simp only [opChars, List.mem_cons, List.not_mem_nil, or_false, not_or] at h
  simp [opTok, minusChar, h]

theorem mem_opChars {c : Char} {t : Tok} (h : opTok c = some t) : c ∈ opChars :=
  Decidable.by_contra fun hn => by simp [opTok_eq_none hn] at h

/-- the first token of an input that does not begin with a blank, and the input after it -/
def lexTok : List Char → Option (Tok × List Char)
  | [] => none
  | c :: r =>
    if isDigit c || c == '.' then
      match lexNumText (c :: r) with
      | none => none
      | some (txt, r1) =>
        match word1 (fun c => isAlpha c || c == '%') (skipWs r1) with
        | some (suf, r2) => some (Tok.num (String.ofList txt) (some (String.ofList suf)), r2)
        | none => some (Tok.num (String.ofList txt) none, r1)
    else if isAlpha c then
      some (Tok.name (String.ofList (lexName (c :: r)).1), (lexName (c :: r)).2)
    else
      match opTok c with
      | some t => some (t, r)
      | none => none

theorem lexAux_zero (s : List Char) : lexAux 0 s =
    match skipWs s with
    | [] => some []
    | _ :: _ => none := by
  rw [lexAux]
  cases skipWs s <;> rfl

theorem lexAux_succ (f : Nat) (s : List Char) : lexAux (f + 1) s =
    match skipWs s with
    | [] => some []
    | c :: r => (lexTok (c :: r)).bind fun x => (lexAux f x.2).map (x.1 :: ·) := by
  rw [lexAux]
  cases skipWs s with
  | nil => rfl
  | cons c r =>
    dsimp only
    rw [lexTok]
    split
    · rcases lexNumText (c :: r) with _ | ⟨txt, r1⟩
      · rfl
      · dsimp only
        cases word1 (fun c => isAlpha c || c == '%') (skipWs r1) <;> rfl
    · split
      · rw [Option.bind_some]  -- `rfl` would unfold `lexName` to reduce the projection `(lexName (c :: r)).2`
      · cases opTok c <;> rfl

theorem lexTok_op {c : Char} {t : Tok} (r : List Char) (h : opTok c = some t) : lexTok (c :: r) = some (t, r) := by
  have := (by decide +kernel : ∀ c ∈ opChars, isDigit c = false ∧ (c == '.') = false ∧ isAlpha c = false) c (mem_opChars h)
  simp [lexTok, this, h]

theorem lexAux_of_lexTok {s r : List Char} {t : Tok} (f : Nat) (h : lexTok s = some (t, r)) :
    lexAux (f + 1) s = (lexAux f r).map (t :: ·) := by
  cases s with
  | nil => cases h
  | cons c s =>
    have hc : isWs c = false := by
      cases hw : isWs c
      · rfl
      · simp only [isWs, Bool.or_eq_true, beq_iff_eq] at hw
        -- on each of the four blanks `lexTok` evaluates to `none`
        rcases hw with ((rfl | rfl) | rfl) | rfl <;> cases h
    simp only [lexAux_succ, skipWs, hc, Bool.false_eq_true, if_false, h, Option.bind_some]

end C03
