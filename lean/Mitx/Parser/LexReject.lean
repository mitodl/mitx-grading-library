import Mitx.Parser.LexTok
/-! A character outside the grammar's alphabet makes `lex` fail: of the input of each function of the lexer, every
    character is allowed or is handed on (`AU`). -/
namespace C03

def punct : List Char := ['.', '_', '{', '}', '^', '\'', '%', '+', '-', '—', '*', '/', '|', '(', ')', '[', ']', ',']
def allowedChar (c : Char) : Bool := isWs c || isAlnum c || punct.contains c

/-- every character of `s` is allowed or still to come in `r` -/
def AU (s r : List Char) : Prop := ∀ c ∈ s, allowedChar c = true ∨ c ∈ r

theorem AU.refl (s : List Char) : AU s s := fun _ h => .inr h
theorem AU.trans {a b c : List Char} (h1 : AU a b) (h2 : AU b c) : AU a c := fun x h => (h1 x h).elim .inl (h2 x)
theorem AU.cons {c : Char} {s r : List Char} (hc : allowedChar c = true) (h : AU s r) : AU (c :: s) r :=
  List.forall_mem_cons.mpr ⟨.inl hc, h⟩
theorem AU.all {s : List Char} (h : AU s []) : ∀ c ∈ s, allowedChar c = true := fun c hc =>
  (h c hc).resolve_right List.not_mem_nil

theorem allowed_of_alnum {c : Char} (h : isAlnum c = true) : allowedChar c = true := by simp [allowedChar, h]
theorem allowed_of_digit {c : Char} (h : isDigit c = true) : allowedChar c = true := allowed_of_alnum (by simp [isAlnum, h])

theorem allowed_or {p q : Char → Bool} (hp : ∀ c, p c = true → allowedChar c = true) (hq : ∀ c, q c = true → allowedChar c = true) :
    ∀ c, (p c || q c) = true → allowedChar c = true := fun c h =>
  (Bool.or_eq_true _ _ ▸ h).elim (hp c) (hq c)
theorem allowed_eq {d : Char} (hd : allowedChar d = true) : ∀ c, (c == d) = true → allowedChar c = true := fun c h =>
  beq_iff_eq.mp h ▸ hd

theorem takeWhile_AU {p : Char → Bool} (hp : ∀ c, p c = true → allowedChar c = true) (s : List Char) :
    AU s (takeWhile p s).2 := fun c hc => by
  rw [← takeWhile_append p s, List.mem_append] at hc
  exact hc.imp_left (hp c ∘ takeWhile_all p s c)

theorem word1_AU {p : Char → Bool} (hp : ∀ c, p c = true → allowedChar c = true) {s w r : List Char}
    (h : word1 p s = some (w, r)) : AU s r := by
  have := takeWhile_AU hp s
  rwa [← word1_eq_some h] at this

theorem skipWs_AU (s : List Char) : AU s (skipWs s) := by
  rw [skipWs_eq]
  exact takeWhile_AU (fun c h => by simp [allowedChar, h]) s

theorem digits_AU {s w r : List Char} (h : word1 isDigit s = some (w, r)) : AU s r :=
  word1_AU (fun _ => allowed_of_digit) h

-- stated with `(w, r)`, not `x.2`: against a goal `AU s (w, (lexName s).2).2`, `exact` unfolds `lexName` first
theorem lexMantissa_AU {s w r : List Char} (h : lexMantissa s = some (w, r)) : AU s r := by
  have dot {r r' : List Char} : AU r r' → AU ('.' :: r) r' := AU.cons (by decide)
  revert w r
  fun_cases lexMantissa s <;> rintro _ _ ⟨⟩
  case case1 h2 h0 => exact (digits_AU h0).trans (dot (digits_AU h2))
  case case2 h0 => exact (digits_AU h0).trans (dot (AU.refl _))
  case case3 h0 => exact digits_AU h0
  case case4 h2 _ => exact dot (digits_AU h2)

theorem lexExpSign_AU (r : List Char) : AU r (lexExpSign r).2 := by
  fun_cases lexExpSign r
  case case1 c r2 hc => exact AU.cons (allowed_eq (by decide) c hc) (AU.refl _)
  case case2 c r2 _ hm => exact AU.cons (allowed_or (allowed_eq (by decide)) (allowed_eq (by decide)) c hm) (AU.refl _)
  all_goals exact AU.refl _

theorem lexNumText_AU {s w r : List Char} (h : lexNumText s = some (w, r)) : AU s r := by
  revert w r
  fun_cases lexNumText s <;> rintro _ _ ⟨⟩
  case case2 e r1 he _ _ _ h3 hm =>
    exact (lexMantissa_AU hm).trans (AU.cons (allowed_or (allowed_eq (by decide)) (allowed_eq (by decide)) e he)
      ((lexExpSign_AU r1).trans (digits_AU h3)))
  all_goals exact lexMantissa_AU ‹_›

theorem optMinus_AU (r : List Char) : AU r (optMinus r).2 := by
  fun_cases optMinus r
  · exact AU.cons (by decide) (AU.refl _)
  · exact AU.refl _

theorem lexIndex_AU {o : Char} (ho : allowedChar o = true) {s w r : List Char} (h : lexIndex o s = some (w, r)) :
    AU s r := by
  revert w r
  fun_cases lexIndex o s <;> rintro _ _ ⟨⟩
  case case1 o' r heq _ _ hw =>
    exact AU.cons (allowed_eq ho o' heq) (AU.cons (by decide) ((optMinus_AU r).trans
      ((word1_AU (fun _ => allowed_of_alnum) hw).trans (AU.cons (by decide) (AU.refl _)))))

theorem orSkip_AU {o : Option (List Char × List Char)} {r : List Char} (h : ∀ {w r'}, o = some (w, r') → AU r r') :
    AU r (orSkip o r).2 := by
  fun_cases orSkip o r
  · exact h rfl
  · exact AU.refl _

theorem lexIndices_AU (r : List Char) : AU r (lexIndices r).2 :=
  (orSkip_AU (lexIndex_AU (by decide))).trans (orSkip_AU (lexIndex_AU (by decide)))

theorem lexNameMid_AU (rest : List Char) : AU rest (lexNameMid rest).2 := by
  fun_cases lexNameMid rest
  case case2 hw _ => exact word1_AU (allowed_or (fun _ => allowed_of_alnum) (allowed_eq (by decide))) hw
  all_goals exact lexIndices_AU _

theorem lexName_AU (s : List Char) : AU s (lexName s).2 :=
  (takeWhile_AU (fun _ => allowed_of_alnum) s).trans ((lexNameMid_AU _).trans (takeWhile_AU (allowed_eq (by decide)) _))

theorem opTok_allowed {c : Char} {t : Tok} (h : opTok c = some t) : allowedChar c = true :=
  (by decide +kernel : ∀ c ∈ opChars, allowedChar c = true) c (mem_opChars h)

theorem lexTok_AU {s r : List Char} {t : Tok} (h : lexTok s = some (t, r)) : AU s r := by
  revert t r
  fun_cases lexTok s <;> rintro _ _ ⟨⟩
  case case3 hn _ _ hw =>
    exact (lexNumText_AU hn).trans ((skipWs_AU _).trans
      (word1_AU (allowed_or (fun c h => allowed_of_alnum (by simp [isAlnum, h])) (allowed_eq (by decide))) hw))
  case case4 hn _ => exact lexNumText_AU hn
  case case5 => exact lexName_AU _
  case case6 ht => exact AU.cons (opTok_allowed ht) (AU.refl _)

theorem lexAux_AU : ∀ (f : Nat) (s : List Char) (toks : List Tok), lexAux f s = some toks → AU s []
  | 0, s, _, h => by
    rw [lexAux_zero] at h
    refine (skipWs_AU s).trans ?_
    split at h
    · next he => rw [he]; exact AU.refl _
    · cases h
  | f + 1, s, _, h => by
    rw [lexAux_succ] at h
    refine (skipWs_AU s).trans ?_
    split at h
    · next he => rw [he]; exact AU.refl _
    · next c r he =>
      rw [he]
      obtain ⟨x, hx, h⟩ := Option.bind_eq_some_iff.mp h
      obtain ⟨tk, htk, _⟩ := Option.map_eq_some_iff.mp h
      exact (lexTok_AU hx).trans (lexAux_AU f _ tk htk)

/-- **Foreign characters are rejected**: a character other than letters, digits, whitespace and
    `. _ { } ^ ' % + - — * / | ( ) [ ] ,` anywhere in the string makes the lexer fail, hence the parse. -/
theorem lex_rejects_foreign (src : String) (c : Char) (hc : c ∈ src.toList) (hbad : allowedChar c = false) : lex src = none := by
  cases h : lex src with
  | none => rfl
  | some toks =>
    have hne : (c != ' ') = true := by
      rw [bne_iff_ne]; rintro rfl; cases hbad
    have := (lexAux_AU _ _ toks h).all c (List.mem_filter.mpr ⟨hc, hne⟩)
    rw [hbad] at this
    cases this

end C03
