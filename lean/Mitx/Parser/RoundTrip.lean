import Mitx.Parser.Compose
import Mitx.Parser.Render
/-! `Good e`: at each level `k` the rendering `(ra e).at k` is what that level asks for (`Lv`), and `(ra e).expo` may stand
    after `^`. Shown of the core at its own level; the rest is `Lv.down` and brackets. -/
namespace C03
variable {V : Type} (A : Alg V) {L : List Tok} {v : V}

/-- what level `k` asks of a rendering; at the two left-associative levels a chain (`LForm`), so that the next operand can be
    added on its right -/
def Lv : Nat → List Tok → V → Prop
  | 0 => SumForm A
  | 1 => ProdForm A
  | 2 => PA2 A
  | 3 => PA3 A
  | 4 => PA4 A
  | _ => PA5 A

theorem Lv.down : ∀ {k : Nat}, Lv A (k+1) L v → Lv A k L v
  | 0 => fun h => .base (ProdForm.pa1 A h)
  | 1 => .base
  | 2 => pa2_of_pa3 A
  | 3 => pa3_of_pa4 A
  | 4 => pa4_of_pa5 A
  | _+5 => id

theorem Lv.le {j k : Nat} (hjk : j ≤ k) (h : Lv A k L v) : Lv A j L v := by
  induction hjk with
  | refl => exact h
  | step _ ih => exact ih (Lv.down A h)

theorem Lv.paren (h : Lv A 0 L v) (k : Nat) : Lv A k (.lp :: L ++ [.rp]) v :=
  Lv.le A (Nat.le_add_right k 5) (show Lv A (k+5) _ _ from pa5_paren A (SumForm.pa0 A h))

theorem Lv.at {r : R} (h : Lv A r.lvl r.core v) (k : Nat) : Lv A k (r.at k) v := by
  unfold R.at
  split
  · exact Lv.le A ‹_› h
  · exact Lv.paren A (Lv.le A (Nat.zero_le _) h) k

/-- `nexpo`, the exponent form of `-e`, is recorded with `e`: `Render` special-cases `ra (.neg (.pow ..))`, and a sign after
    `^` is read by `powOp`, not by `pNegation`. -/
structure Good (e : E) : Prop where
  lv : ∀ k, Lv A k ((ra e).at k) (denote A e)
  expo : PowX A (ra e).expo (denote A e)
  nexpo : PowX A (ra (.neg e)).expo (A.neg (denote A e))

variable {e : E}

theorem Good.pa0 (g : Good A e) : PA0 A ((ra e).at 0) (denote A e) := SumForm.pa0 A (g.lv 0)
theorem Good.pa1 (g : Good A e) : PA1 A ((ra e).at 1) (denote A e) := ProdForm.pa1 A (g.lv 1)

theorem Good.of_core (hx : (ra e).expo = (ra e).at 5) (hn : (ra (.neg e)).expo = .minus :: (ra e).at 5)
    (h : Lv A (ra e).lvl (ra e).core (denote A e)) : Good A e :=
  have h5 : PA5 A ((ra e).at 5) (denote A e) := Lv.at A h 5
  ⟨Lv.at A h, hx ▸ PowX.last A false h5, hn ▸ PowX.last A true h5⟩

/-- `hq`, `hnil`: the repetition `q`; `hok`, `hop`: an operand may end in front of what follows the list, and of a separator;
    `h0`, `h1`: `tl` is `raPars` or `raArgs` -/
theorem rest_tail {p : Nat → List Tok → Res T} {q : Nat → List Tok → Res (List T)} {ok okp : List Tok → Prop}
    {op : List Tok} {k : Nat} {tl : List E → List Tok}
    (hq : IsRep q op p id) (hnil : ∀ f rest, ok rest → q (f+1) rest = some ([], rest)) (hok : ∀ rest, ok rest → okp rest)
    (hop : ∀ rest, okp (op ++ rest)) (h0 : tl [] = []) (h1 : ∀ x xs, tl (x :: xs) = op ++ (ra x).at k ++ tl xs)
    {rest : List E} (h : ∀ x ∈ rest, PA A p okp ((ra x).at k) (denote A x)) :
    Tail q ok okp (tl rest) (evalL A · = denoteL A rest) := by
  induction rest with
  | nil => rw [h0]; exact Tail.nil hnil hok rfl
  | cons x xs ih =>
    rw [h1]
    exact Tail.cons hq hop (h x (by simp)) (ih fun y hy => h y (by simp [hy])) fun a l ha hl => by
      rw [evalL_cons, id, ha, hl, denoteL]

theorem args_phrase {a : E} {rest : List E} (ga : Good A a) (gr : ∀ x ∈ rest, Good A x) :
    Ph pList okL ((ra a).at 0 ++ raArgs rest) (evalL A · = denote A a :: denoteL A rest) :=
  Ph.seq pList_seq ga.pa0
    (rest_tail A pListTail_rep pListTail_nil (fun _ h => h.1) (fun _ => trivial) rfl (fun _ _ => rfl) fun x hx => (gr x hx).pa0)
    fun t l ht hl => by rw [evalL_cons, ht, hl]

theorem Good.call (f : String) {a : E} {rest : List E} (ga : Good A a) (gr : ∀ x ∈ rest, Good A x) :
    Good A (.call f a rest) :=
  .of_core A rfl rfl <| (args_phrase A ga gr).bracket (pre := [.name f, .lp]) (mk := .call f)
    (fun _ => ⟨trivial, by simp [headNot]⟩) (fun f ts a r h => by simp [pAtom_succ, h])
    (fun l hl => by simp [evalT, denote, hl])

theorem Good.arr {a : E} {rest : List E} (ga : Good A a) (gr : ∀ x ∈ rest, Good A x) : Good A (.arr a rest) :=
  .of_core A rfl rfl <| (args_phrase A ga gr).bracket (pre := [.lb]) (mk := .arr)
    (fun _ => ⟨trivial, by simp [headNot]⟩) (fun f ts a r h => by simp [pAtom_succ, h])
    (fun l hl => by simp [evalT, denote, hl])

theorem neg_core (x : E) : (ra (.neg x)).core = .minus :: (ra x).at 4 ∧ (ra (.neg x)).lvl = 3 := by
  cases x <;> exact ⟨rfl, rfl⟩

theorem Good.neg {x : E} (gx : Good A x) : Good A (.neg x) := by
  obtain ⟨hcore, hlvl⟩ := neg_core x
  have hl := Lv.at A (r := ra (.neg x)) (v := A.neg (denote A x)) (by rw [hlvl, hcore]; exact pa3_neg A (gx.lv 4))
  exact ⟨hl, gx.nexpo, PowX.last A true (hl 5)⟩

theorem Good.pow {b x : E} (gb : Good A b) (gx : Good A x) : Good A (.pow b x) :=
  ⟨Lv.at A (pow_phrase A (gb.lv 5) gx.expo), PowX.cons A false (gb.lv 5) gx.expo, PowX.cons A true (gb.lv 5) gx.expo⟩

theorem Good.par {a b : E} {rest : List E} (ga : Good A a) (gb : Good A b) (gr : ∀ x ∈ rest, Good A x) :
    Good A (.par a b rest) := by
  have hc : (ra (.par a b rest)).core = (ra a).at 3 ++ raPars (b :: rest) := by simp [ra, raPars]
  refine .of_core A rfl rfl (show PA2 A _ (A.par (denote A a :: denoteL A (b :: rest))) from ?_)
  rw [hc]
  exact par_phrase A (ga.lv 3) <|
    rest_tail A pParTail_rep pParTail_nil (fun _ => ok4_of_ok2) (fun _ => trivial) rfl (fun _ _ => rfl) fun x hx => (List.forall_mem_cons.mpr ⟨gb, gr⟩ x hx).lv 3

mutual
/- the rows with `rfl rfl`: a leaf or a bracketed core is its own exponent form; `.snoc` adds the right operand to the
   left-associative chain (`Lv` at levels 0 and 1 is `LForm`) -/
theorem good : ∀ e : E, Good A e
  | .num txt suf => .of_core A rfl rfl (pa5_num A txt suf)
  | .var s => .of_core A rfl rfl (pa5_var A s)
  | .call f a rest => .call A f (good a) (goodL rest)
  | .arr a rest => .arr A (good a) (goodL rest)
  | .neg x => .neg A (good x)
  | .pow b x => .pow A (good b) (good x)
  | .par a b rest => .par A (good a) (good b) (goodL rest)
  | .mul a b => .of_core A rfl rfl (.snoc false ((good a).lv 1) ((good b).lv 2))
  | .div a b => .of_core A rfl rfl (.snoc true ((good a).lv 1) ((good b).lv 2))
  | .add a b => .of_core A rfl rfl (.snoc false ((good a).lv 0) (good b).pa1)
  | .sub a b => .of_core A rfl rfl (.snoc true ((good a).lv 0) (good b).pa1)
theorem goodL : ∀ rest : List E, ∀ x ∈ rest, Good A x
  | [] => fun _ h => nomatch h
  | x :: xs => List.forall_mem_cons.mpr ⟨good x, goodL xs⟩
end

theorem render_phrase (e : E) : PA0 A (render e) (denote A e) :=
  (good A e).pa0

/-- **Round trip.** For every expression tree `e` and every interpretation of the operators, the minimally parenthesised
    rendering of `e` parses (given enough fuel) to a tree that evaluates to the value of `e`. -/
theorem parse_render (e : E) :
    ∃ F, ∀ f, F ≤ f → ∃ t, pExpr f (render e) = some (t, []) ∧ evalT A t = denote A e := by
  obtain ⟨F, hF⟩ := render_phrase A e
  exact ⟨F, fun f hf => by simpa using hF f hf [] trivial⟩

end C03
#print axioms C03.parse_render
