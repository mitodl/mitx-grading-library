import Mitx.Munkres.Step3and6
/-! Steps 1 and 2 establish the entry condition of step 3. -/
namespace Mk

/-- the state handed to step 1 -/
structure Init (C0 : Nat → Nat → ℚ) (n : Nat) (s : St) : Prop where
  hn : s.n = n
  hC : ∀ i j, i < n → j < n → s.C i j = C0 i j
  hmark : ∀ i j, s.marked i j = 0
  hrow : ∀ i, s.rowCov i = false
  hcol : ∀ j, s.colCov j = false

theorem Marks.blank {n C mk} (h : ∀ i j, mk i j = 0) : Marks n C mk := by
  have hm : ∀ {i j k}, mk i j = k + 1 → False := fun e => by
    rw [h] at e
    cases e
  exact ⟨fun e => (hm e).elim, fun e => (hm e).elim, fun e => (hm e).elim, fun e => (hm e).elim⟩

/-- a star on a zero whose row and column carry none -/
theorem Marks.starred {n C mk r c} (hm : Marks n C mk) (hr : r < n) (hc : c < n) (hz : C r c = 0)
    (norow : ∀ j, mk r j ≠ 1) (nocol : ∀ i, mk i c ≠ 1) : Marks n C (set2 mk r c 1) := by
  have hs := set2_eq_self_iff mk r c 1
  refine ⟨fun h => ?_, fun {i j} h => ?_, fun {i j j'} h h' => ?_, fun {i i' j} h h' => ?_⟩
  · rcases (hs ..).mp h with ⟨rfl, rfl⟩ | h
    · exact ⟨hr, hc, hz⟩
    · exact hm.star h
  · exact hm.prime (set2_eq_of_ne (by decide) h)
  · rcases (hs ..).mp h with ⟨rfl, rfl⟩ | h1 <;> rcases (hs ..).mp h' with ⟨e, rfl⟩ | h1'
    · rfl
    · exact (norow j' h1').elim
    · exact (norow j (e ▸ h1)).elim
    · exact hm.rowU h1 h1'
  · rcases (hs ..).mp h with ⟨rfl, rfl⟩ | h1 <;> rcases (hs ..).mp h' with ⟨rfl, e⟩ | h1'
    · rfl
    · exact (nocol i' h1').elim
    · exact (nocol i (e ▸ h1)).elim
    · exact hm.colU h1 h1'

theorem step1_spec {C0 n s} (h : Init C0 n s) :
    Base C0 n (step1 s) ∧ ∀ i j, (step1 s).marked i j = 0 := by
  refine ⟨⟨h.hn, ⟨⟨fun i => rangeMin s.n (s.C i), fun _ => 0, fun i j hi hj => ?_⟩, fun i j hi hj => ?_⟩,
    Marks.blank h.hmark⟩, h.hmark⟩
  · simp [step1, h.hn, hi, h.hC i j hi hj]
  · simp only [step1, h.hn, hi, if_true]
    exact sub_nonneg.mpr (rangeMin_le n (s.C i) j hj)

/-- the loop body of `step2`, named (`step2_eq`) -/
def s2body (s : St) (acc : (Nat → Nat → Nat) × (Nat → Bool)) (i : Nat) : (Nat → Nat → Nat) × (Nat → Bool) :=
  match (List.range s.n).find? (fun j => s.C i j == 0 && !acc.2 j) with
  | some j => (set2 acc.1 i j 1, set1 acc.2 j true)
  | none => acc

/-- the greedy starring of step 2 after rows `< k`: its column covers are the starred columns -/
structure Step2Inv (s : St) (k : Nat) (acc : (Nat → Nat → Nat) × (Nat → Bool)) : Prop where
  marks : Marks s.n s.C acc.1
  cov : ∀ {i j}, acc.1 i j = 1 → i < k ∧ acc.2 j = true
  noPrime : ∀ i j, acc.1 i j ≠ 2

theorem Step2Inv.step {s : St} {k acc} (hk : k < s.n) (h : Step2Inv s k acc) : Step2Inv s (k + 1) (s2body s acc k) := by
  unfold s2body
  split
  · next j hj =>
    obtain ⟨h2, h1⟩ := find?_range_some hj
    simp only [Bool.and_eq_true, beq_iff_eq, Bool.not_eq_true'] at h1
    have norow : ∀ j', acc.1 k j' ≠ 1 := fun j' hm => Nat.lt_irrefl k (h.cov hm).1
    have nocol : ∀ i, acc.1 i j ≠ 1 := fun i hm => Bool.false_ne_true (h1.2.symm.trans (h.cov hm).2)
    refine ⟨h.marks.starred hk h2 h1.1 norow nocol, fun {a b} hm => ?_, fun a b e => ?_⟩
    · show _ ∧ set1 acc.2 j true b = true
      rw [set1_apply]
      rcases (set2_eq_self_iff ..).mp hm with ⟨rfl, rfl⟩ | hm
      · exact ⟨Nat.lt_succ_self _, if_pos rfl⟩
      · exact ⟨Nat.lt_succ_of_lt (h.cov hm).1, by rw [(h.cov hm).2, ite_self]⟩
    · exact h.noPrime a b (set2_eq_of_ne (by decide) e)
  · exact ⟨h.marks, fun hm => ⟨Nat.lt_succ_of_lt (h.cov hm).1, (h.cov hm).2⟩, h.noPrime⟩

theorem Step2Inv.fold {s : St} {init} (h0 : Step2Inv s 0 init) :
    ∀ k, k ≤ s.n → Step2Inv s k ((List.range k).foldl (s2body s) init) := by
  intro k
  induction k with
  | zero => exact fun _ => h0
  | succ k ih =>
    intro hk
    rw [List.range_succ, List.foldl_append]
    exact (ih (Nat.le_of_succ_le hk)).step hk

theorem step2_eq (s : St) : step2 s =
    { s with
      marked := ((List.range s.n).foldl (s2body s) (s.marked, s.colCov)).1
      rowCov := fun _ => false
      colCov := fun _ => false } := rfl

theorem step2_spec {C0 n s} (hb : Base C0 n s) (hmark : ∀ i j, s.marked i j = 0) :
    Base C0 n (step2 s) ∧ Clean (step2 s) := by
  rw [step2_eq]
  have h0 : Step2Inv s 0 (s.marked, s.colCov) :=
    ⟨Marks.blank hmark, fun hm => absurd ((hmark _ _).symm.trans hm) nofun, fun i j e => absurd ((hmark i j).symm.trans e) nofun⟩
  have hinv := h0.fold s.n (Nat.le_refl _)
  exact ⟨⟨hb.hn, hb.feas, hb.hn ▸ hinv.marks⟩, ⟨fun _ => rfl, fun _ => rfl, hinv.noPrime⟩⟩

theorem init_spec {C0 n s0} (h0 : Init C0 n s0) : RI C0 n .p3 (step2 (step1 s0)) := by
  obtain ⟨hb, hm⟩ := step1_spec h0
  exact step2_spec hb hm

end Mk
