import Mitx.Munkres.Inv
/-! Step 5: the alternating path is duplicate-free and closed under the stars of its primes' lines, so flipping it
    keeps the stars independent and stars one more column. -/
namespace Mk
open Finset

/-- `__convert_path` on one cell: a star goes, anything else becomes a star -/
def flip (m : Nat → Nat → Nat) (p : Nat × Nat) : Nat → Nat → Nat :=
  if m p.1 p.2 == 1 then set2 m p.1 p.2 0 else set2 m p.1 p.2 1

theorem flip_apply (m : Nat → Nat → Nat) (p : Nat × Nat) (i j : Nat) :
    flip m p i j = if (i, j) = p then (if m i j = 1 then 0 else 1) else m i j := by
  obtain ⟨a, b⟩ := p
  unfold flip
  by_cases h : i = a ∧ j = b
  · obtain ⟨rfl, rfl⟩ := h
    by_cases h1 : m i j = 1 <;> simp [h1]
  · have hne : (i, j) ≠ (a, b) := fun e => h (Prod.mk.inj e)
    rw [if_neg hne]
    split <;> rw [set2_apply, if_neg h]

theorem flip_fold (l : List (Nat × Nat)) (hnd : l.Nodup) (m : Nat → Nat → Nat) (i j : Nat) :
    (l.foldl flip m) i j = if (i, j) ∈ l then (if m i j = 1 then 0 else 1) else m i j := by
  induction l generalizing m with
  | nil => rfl
  | cons p l ih =>
    obtain ⟨hp, hnd'⟩ := List.nodup_cons.mp hnd
    rw [List.foldl_cons, ih hnd', flip_apply]
    by_cases e : (i, j) = p
    · rw [if_neg (e ▸ hp), if_pos e, if_pos (List.mem_cons.mpr (Or.inl e))]
    · rw [if_neg e]
      by_cases hl : (i, j) ∈ l
      · rw [if_pos hl, if_pos (List.mem_cons_of_mem _ hl)]
      · rw [if_neg hl, if_neg (fun h => (List.mem_cons.mp h).elim e hl)]

/-- `__convert_path`, then `__erase_primes` -/
def augment (m : Nat → Nat → Nat) (path : List (Nat × Nat)) : Nat → Nat → Nat :=
  fun i j => if path.foldl flip m i j == 2 then 0 else path.foldl flip m i j

theorem augment_ne_two (m : Nat → Nat → Nat) (path : List (Nat × Nat)) (i j : Nat) : augment m path i j ≠ 2 := by
  unfold augment
  split
  · omega
  · next h => simpa using h

theorem augment_eq_one {m : Nat → Nat → Nat} {path : List (Nat × Nat)} (hnd : path.Nodup)
    (hc : ∀ q ∈ path, m q.1 q.2 = 1 ∨ m q.1 q.2 = 2) (i j : Nat) :
    augment m path i j = 1 ↔ ((i, j) ∈ path ∧ m i j = 2) ∨ ((i, j) ∉ path ∧ m i j = 1) := by
  unfold augment
  rw [flip_fold path hnd]
  by_cases hp : (i, j) ∈ path
  · rcases hc _ hp with h | h <;> simp [hp, h]
  · by_cases h2 : m i j = 2 <;> simp [hp, h2]

/-- alternating path built by step 5 (head = most recent prime). -/
inductive GoodPath (n : Nat) (s : St) (tm : Nat → Nat) : List (Nat × Nat) → Prop
  | base : GoodPath n s tm [(s.z0r, s.z0c)]
  | step {path r0 c r c2} : GoodPath n s tm ((r0, c) :: path) →
      r < n → c2 < n → s.marked r c = 1 → s.marked r c2 = 2 → tm r < tm r0 →
      GoodPath n s tm ((r, c2) :: (r, c) :: (r0, c) :: path)

section
variable {C0 : Nat → Nat → ℚ} {n : Nat} {s : St} {tm : Nat → Nat}

theorem GoodPath.ne_nil {p} (h : GoodPath n s tm p) : p ≠ [] := by cases h <;> simp

theorem GoodPath.marked (h5 : Phase5 n s.marked s.z0r s.z0c tm) {p} (h : GoodPath n s tm p) :
    (∀ q ∈ p, s.marked q.1 q.2 = 1 ∨ s.marked q.1 q.2 = 2) ∧ ∀ q, p.head? = some q → s.marked q.1 q.2 = 2 := by
  induction h with
  | base =>
    refine ⟨fun q hq => ?_, fun q e => ?_⟩
    · rw [List.mem_singleton.mp hq]; exact Or.inr h5.z0.1
    · cases e; exact h5.z0.1
  | step hp hr hc2 hs hpr ht ih =>
    refine ⟨List.forall_mem_cons.mpr ⟨Or.inr hpr, List.forall_mem_cons.mpr ⟨Or.inl hs, ih.1⟩⟩, fun q e => ?_⟩
    cases e; exact hpr

theorem GoodPath.tm_lb {p} (h : GoodPath n s tm p) :
    ∀ q0, p.head? = some q0 → ∀ q ∈ p, tm q0.1 ≤ tm q.1 := by
  induction h with
  | base =>
    intro q0 e q hq
    cases e
    rw [List.mem_singleton.mp hq]
  | step hp hr hc2 hs hpr ht ih =>
    intro q0 e
    cases e
    refine List.forall_mem_cons.mpr ⟨Nat.le_refl _, List.forall_mem_cons.mpr ⟨Nat.le_refl _, fun q hq => ?_⟩⟩
    exact Nat.le_trans (Nat.le_of_lt ht) (ih _ rfl q hq)

theorem GoodPath.nodup {p} (h : GoodPath n s tm p) : p.Nodup := by
  induction h with
  | base => simp
  | step hp hr hc2 hs hpr ht ih =>
    rename_i path r0 c r c2
    -- row `r` is new to the path: it was primed before every row on it
    have hnew : ∀ x, (r, x) ∉ (r0, c) :: path := fun x hx => by
      have : tm r0 ≤ tm r := hp.tm_lb _ rfl _ hx
      omega
    refine List.nodup_cons.mpr ⟨?_, List.nodup_cons.mpr ⟨hnew c, ih⟩⟩
    rw [List.mem_cons]
    rintro (e | hmem)
    · cases e; omega
    · exact hnew c2 hmem

theorem GoodPath.row_closed (hb : Base C0 n s) (h5 : Phase5 n s.marked s.z0r s.z0c tm) {p} (h : GoodPath n s tm p) :
    ∀ q ∈ p, s.marked q.1 q.2 = 2 → ∀ j, s.marked q.1 j = 1 → (q.1, j) ∈ p := by
  induction h with
  | base =>
    intro q hq _ j hj
    rw [List.mem_singleton.mp hq] at hj
    exact (h5.z0.2 j hj).elim
  | step hp hr hc2 hs hpr ht ih =>
    refine List.forall_mem_cons.mpr ⟨fun _ j hj => ?_, List.forall_mem_cons.mpr ⟨fun h2 => ?_, fun q hq h2 j hj => ?_⟩⟩
    · rw [hb.marks.rowU hj hs]; simp
    · exact absurd (hs.symm.trans h2) (by decide)
    · exact List.mem_cons_of_mem _ (List.mem_cons_of_mem _ (ih q hq h2 j hj))

theorem GoodPath.prime_col {p} (h : GoodPath n s tm p) :
    ∀ q ∈ p, s.marked q.1 q.2 = 2 → p.head? = some q ∨ ∃ i, (i, q.2) ∈ p ∧ s.marked i q.2 = 1 := by
  induction h with
  | base =>
    intro q hq _
    exact Or.inl (by rw [List.mem_singleton.mp hq]; rfl)
  | step hp hr hc2 hs hpr ht ih =>
    rename_i path r0 c r c2
    refine List.forall_mem_cons.mpr ⟨fun _ => Or.inl rfl, List.forall_mem_cons.mpr ⟨fun h2 => ?_, fun q hq h2 => Or.inr ?_⟩⟩
    · exact absurd (hs.symm.trans h2) (by decide)
    · rcases ih q hq h2 with e | ⟨i, hi, hm⟩
      · cases e
        exact ⟨r, by simp, hs⟩
      · exact ⟨i, List.mem_cons_of_mem _ (List.mem_cons_of_mem _ hi), hm⟩

theorem GoodPath.prime_cols_nodup (h5 : Phase5 n s.marked s.z0r s.z0c tm) {p} (h : GoodPath n s tm p) :
    ((p.filter fun q => s.marked q.1 q.2 == 2).map Prod.snd).Nodup := by
  induction h with
  | base =>
    rw [List.filter_cons_of_pos (by simpa using h5.z0.1)]
    exact List.nodup_singleton _
  | step hp hr hc2 hs hpr ht ih =>
    rename_i path r0 c r c2
    rw [List.filter_cons_of_pos (by simpa using hpr), List.filter_cons_of_neg (by simp [hs]), List.map_cons]
    refine List.nodup_cons.mpr ⟨fun hmem => ?_, ih⟩
    -- an older path prime in column `c2`: the star below it would be primed before `r`, not before `r0`
    obtain ⟨q, hq, e⟩ := List.mem_map.mp hmem
    obtain ⟨hq, h2⟩ := List.mem_filter.mp hq
    rw [beq_iff_eq] at h2
    rcases hp.prime_col q hq h2 with e' | ⟨i, hi, hm⟩
    · cases e'
      have : c = c2 := e
      subst this
      exact absurd (hs.symm.trans hpr) (by decide)
    · rw [e] at hi hm
      have h1 := (h5.order hpr hm).1
      have : tm r0 ≤ tm i := hp.tm_lb _ rfl _ hi
      exact absurd (h1.trans ht) (Nat.not_lt.mpr this)

theorem GoodPath.star_prev (h5 : Phase5 n s.marked s.z0r s.z0c tm) {p} (h : GoodPath n s tm p) :
    ∀ q ∈ p, s.marked q.1 q.2 = 1 → ∃ i, (i, q.2) ∈ p ∧ s.marked i q.2 = 2 := by
  induction h with
  | base =>
    intro q hq h1
    rw [List.mem_singleton.mp hq] at h1
    exact absurd (h1.symm.trans h5.z0.1) (by decide)
  | step hp hr hc2 hs hpr ht ih =>
    rename_i path r0 c r c2
    refine List.forall_mem_cons.mpr ⟨fun h1 => ?_, List.forall_mem_cons.mpr ⟨fun _ => ?_, fun q hq h1 => ?_⟩⟩
    · exact absurd (h1.symm.trans hpr) (by decide)
    · exact ⟨r0, by simp, (hp.marked h5).2 _ rfl⟩
    · obtain ⟨i, hi, hm⟩ := ih q hq h1
      exact ⟨i, List.mem_cons_of_mem _ (List.mem_cons_of_mem _ hi), hm⟩

/-- a finished path: its head `(r, c)` is a prime in a star-free column -/
structure Augmenting (n : Nat) (s : St) (tm : Nat → Nat) (path : List (Nat × Nat)) (r c : Nat) : Prop where
  good : GoodPath n s tm path
  head : path.head? = some (r, c)
  free : ∀ i, s.marked i c ≠ 1

theorem buildPath_spec (hb : Base C0 n s) (h5 : Phase5 n s.marked s.z0r s.z0c tm) : ∀ (f r0 c : Nat) (rest : List (Nat × Nat)),
    GoodPath n s tm ((r0, c) :: rest) → tm r0 < f →
    ∃ p r c', buildPath f s ((r0, c) :: rest) = some p ∧ Augmenting n s tm p r c' := by
  intro f
  induction f with
  | zero => exact fun r0 c rest _ h => absurd h (Nat.not_lt_zero _)
  | succ f ih =>
    intro r0 c rest hg hf
    unfold buildPath
    simp only
    rcases hr : findStarInCol s c with _ | r <;> simp only
    · exact ⟨_, r0, c, rfl, hg, rfl, fun i h => findStarInCol_none hr i (hb.hn ▸ (hb.marks.star h).1) h⟩
    · have hr' := findStarInCol_some hr
      obtain ⟨ht, c2, hc2⟩ := h5.order (show s.marked r0 c = 2 from (hg.marked h5).2 _ rfl) hr'.2
      rcases hc2' : findPrimeInRow s r with _ | c2' <;> simp only
      · exact (findPrimeInRow_none hc2' c2 (hb.hn ▸ (hb.marks.prime hc2).2.1) hc2).elim
      · have hc2'' := findPrimeInRow_some hc2'
        exact ih r c2' _ (GoodPath.step hg (hb.hn ▸ hr'.1) (hb.hn ▸ hc2''.1) hr'.2 hc2''.2 ht)
          (Nat.lt_of_lt_of_le ht (Nat.le_of_lt_succ hf))

/-- flipping a finished path keeps the stars on zeros and independent: in a row, a new star replaces the row's old one
    (`row_closed`); in a column, the star below a path prime is on the path, because only the head's column is star-free -/
theorem Augmenting.marks (hb : Base C0 n s) (h5 : Phase5 n s.marked s.z0r s.z0c tm) {path r c}
    (ha : Augmenting n s tm path r c) : Marks n s.C (augment s.marked path) := by
  obtain ⟨hg, hpe, hfree⟩ := ha
  have hnew := augment_eq_one hg.nodup (hg.marked h5).1
  have hcol : ∀ {i i' j}, (i, j) ∈ path → s.marked i j = 2 → s.marked i' j = 1 → (i', j) ∈ path := by
    intro i i' j hp h2 h1
    rcases hg.prime_col _ hp h2 with e | ⟨i'', hi'', hm⟩
    · cases hpe.symm.trans e
      exact (hfree i' h1).elim
    · rw [hb.marks.colU h1 hm]; exact hi''
  refine ⟨?_, ?_, ?_, ?_⟩
  · intro i j h
    rcases (hnew i j).mp h with ⟨_, h2⟩ | ⟨_, h1⟩
    · exact hb.marks.prime h2
    · exact hb.marks.star h1
  · intro i j h
    exact (augment_ne_two _ _ i j h).elim
  · intro i j j' h h'
    rcases (hnew i j).mp h with ⟨hp, h2⟩ | ⟨hp, h1⟩ <;> rcases (hnew i j').mp h' with ⟨hp', h2'⟩ | ⟨hp', h1'⟩
    · exact h5.primeU h2 h2'
    · exact (hp' (hg.row_closed hb h5 _ hp h2 j' h1')).elim
    · exact (hp (hg.row_closed hb h5 _ hp' h2' j h1)).elim
    · exact hb.marks.rowU h1 h1'
  · intro i i' j h h'
    rcases (hnew i j).mp h with ⟨hp, h2⟩ | ⟨hp, h1⟩ <;> rcases (hnew i' j).mp h' with ⟨hp', h2'⟩ | ⟨hp', h1'⟩
    · exact (Prod.mk.inj (List.inj_on_of_nodup_map (hg.prime_cols_nodup h5)
        (List.mem_filter.mpr ⟨hp, beq_iff_eq.mpr h2⟩) (List.mem_filter.mpr ⟨hp', beq_iff_eq.mpr h2'⟩) rfl)).1
    · exact (hp' (hcol hp h2 h1')).elim
    · exact (hp (hcol hp' h2' h1)).elim
    · exact hb.marks.colU h1 h1'

/-- … and stars exactly one more column, the head's -/
theorem Augmenting.starcols_succ (hb : Base C0 n s) (h5 : Phase5 n s.marked s.z0r s.z0c tm) {path r c}
    (ha : Augmenting n s tm path r c) : starcols n (augment s.marked path) = starcols n s.marked + 1 := by
  have hm' := ha.marks hb h5
  obtain ⟨hg, hpe, hfree⟩ := ha
  have hmk := hg.marked h5
  have hnew := augment_eq_one hg.nodup hmk.1
  have hset : (range n).filter (fun j => hasStar n (augment s.marked path) j = true) =
      insert c ((range n).filter (fun j => hasStar n s.marked j = true)) := by
    ext j
    simp only [mem_filter, mem_range, mem_insert, hasStar_iff hm', hasStar_iff hb.marks]
    constructor
    · rintro ⟨hj, i, h⟩
      rcases (hnew i j).mp h with ⟨hp, h2⟩ | ⟨_, h1⟩
      · rcases hg.prime_col _ hp h2 with e | ⟨i', _, h1⟩
        · cases hpe.symm.trans e
          exact Or.inl rfl
        · exact Or.inr ⟨hj, i', h1⟩
      · exact Or.inr ⟨hj, i, h1⟩
    · rintro (rfl | ⟨hj, i, h1⟩)
      · exact ⟨(hb.marks.prime (hmk.2 _ hpe)).2.1, r,
          (hnew r j).mpr (Or.inl ⟨List.mem_of_mem_head? (hpe ▸ rfl), hmk.2 _ hpe⟩)⟩
      · refine ⟨hj, ?_⟩
        by_cases hp : (i, j) ∈ path
        · obtain ⟨i', hi', h2⟩ := hg.star_prev h5 _ hp h1
          exact ⟨i', (hnew i' j).mpr (Or.inl ⟨hi', h2⟩)⟩
        · exact ⟨i, (hnew i j).mpr (Or.inr ⟨hp, h1⟩)⟩
  rw [starcols, hset, card_insert_of_notMem]
  · rfl
  · simp only [mem_filter, hasStar_iff hb.marks, not_and, not_exists]
    exact fun _ i => hfree i

theorem step5_spec (h : RI C0 n .p5 s) :
    ∃ s', step5 s = some s' ∧ RI C0 n .p3 s' ∧ need n .p3 s' < need n .p5 s := by
  obtain ⟨hb, tm, h5⟩ := h
  obtain ⟨path, r, c, hpath, ha⟩ :=
    buildPath_spec hb h5 (2 * s.n + 2) _ _ _ GoodPath.base (by have := h5.time; rw [hb.hn]; omega)
  refine ⟨{ s with marked := augment s.marked path, rowCov := fun _ => false, colCov := fun _ => false },
    by simp only [step5, hpath]; rfl,
    ⟨⟨hb.hn, hb.feas, ha.marks hb h5⟩, fun _ => rfl, fun _ => rfl, augment_ne_two _ _⟩, ?_⟩
  -- one star-free column fewer pays for a whole round
  have hd : n - starcols n s.marked = n - (starcols n s.marked + 1) + 1 := by
    rw [Nat.sub_add_eq, Nat.sub_add_cancel (Nat.sub_pos_of_lt (starcols_lt_of_free h5.freeCol))]
  simp only [need, ha.starcols_succ hb h5, hd, Nat.succ_mul, Nat.add_assoc]
  exact Nat.lt_succ_self _

end
end Mk
