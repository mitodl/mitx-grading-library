import Mitx.Munkres.Inv
/-! Step 4: what one turn of the priming loop does to `Marks` and `Phase`, the loop, and its exits to steps 5 and 6. -/
namespace Mk

section
variable {C : Nat → Nat → ℚ} {n : Nat} {mk : Nat → Nat → Nat} {rc cc : Nat → Bool} {tm : Nat → Nat} {t r c i j : Nat}

theorem Phase.unmarked (hp : Phase n mk rc cc tm t) (hrc : rc r = false) (hcc : cc c = false) :
    mk r c ≠ 1 ∧ mk r c ≠ 2 :=
  ⟨fun h => Bool.false_ne_true (hcc.symm.trans (hp.colCov.mpr ⟨r, h, hrc⟩)),
   fun h => Bool.false_ne_true (hrc.symm.trans (hp.rowCov.mpr ⟨c, h⟩))⟩

theorem Phase.row_covered_of_star (hp : Phase n mk rc cc tm t) (h : mk i j = 1) (hcc : cc j = false) : rc i = true :=
  eq_true_of_ne_false fun hrc => Bool.false_ne_true (hcc.symm.trans (hp.colCov.mpr ⟨i, h, hrc⟩))

theorem Phase.cov_of_star (hm : Marks n C mk) (hp : Phase n mk rc cc tm t) (h : mk i j = 1) : rc i = !cc j := by
  cases hcc : cc j with
  | false => exact hp.row_covered_of_star h hcc
  | true =>
    obtain ⟨i', h1, hrc⟩ := hp.colCov.mp hcc
    rw [hm.colU h h1, hrc]
    rfl

theorem Phase.cov_of_prime (hp : Phase n mk rc cc tm t) (h : mk i j = 2) : rc i = true ∧ cc j = false := by
  refine ⟨hp.rowCov.mpr ⟨j, h⟩, eq_false_of_ne_true fun hcc => ?_⟩
  -- the star that covers column `j` would sit in an unprimed row
  obtain ⟨i', h1, hrc⟩ := hp.colCov.mp hcc
  obtain ⟨j', h2⟩ := (hp.order h h1).2
  exact Bool.false_ne_true (hrc.symm.trans (hp.rowCov.mpr ⟨j', h2⟩))

theorem Marks.primed (hm : Marks n C mk) (hr : r < n) (hc : c < n) (hz : C r c = 0) (h1 : mk r c ≠ 1) :
    Marks n C (set2 mk r c 2) := by
  have hs := set2_two_eq_one h1
  refine ⟨fun h => hm.star ((hs _ _).mp h), fun h => ?_, fun h h' => hm.rowU ((hs _ _).mp h) ((hs _ _).mp h'),
    fun h h' => hm.colU ((hs _ _).mp h) ((hs _ _).mp h')⟩
  rcases (set2_eq_self_iff ..).mp h with ⟨rfl, rfl⟩ | h
  · exact ⟨hr, hc, hz⟩
  · exact hm.prime h

/-- what both exits of a turn share, once `(r, c)` is primed at time `t` -/
theorem Phase.primed (hp : Phase n mk rc cc tm t) (hrc : rc r = false) (hcc : cc c = false) :
    Primes n (set2 mk r c 2) (set1 tm r t) := by
  have hs := set2_two_eq_one (hp.unmarked hrc hcc).1
  have hq := set2_eq_self_iff mk r c 2
  have hrow : ∀ {i j}, mk i j = 2 → i ≠ r := fun h e =>
    Bool.false_ne_true ((e ▸ hrc).symm.trans (hp.rowCov.mpr ⟨_, h⟩))
  refine ⟨fun {i j j'} h h' => ?_, fun {i i' j} h h' => ?_, ?_⟩
  · rcases (hq ..).mp h with ⟨hi, hj⟩ | h <;> rcases (hq ..).mp h' with ⟨hi', hj'⟩ | h'
    · rw [hj, hj']
    · exact (hrow h' hi).elim
    · exact (hrow h hi').elim
    · exact hp.primeU h h'
  · rw [hs] at h'
    -- the star's row is primed: by `order`, or, below the new prime, because column `c` is uncovered
    obtain ⟨j', hj'⟩ : ∃ j', mk i' j' = 2 := by
      rcases (hq ..).mp h with ⟨_, hj⟩ | h
      · exact hp.rowCov.mp (hp.row_covered_of_star h' (hj ▸ hcc))
      · exact (hp.order h h').2
    refine ⟨?_, j', (hq ..).mpr (Or.inr hj')⟩
    rw [set1_apply, set1_apply, if_neg (hrow hj')]
    rcases (hq ..).mp h with ⟨hi, _⟩ | h
    · rw [if_pos hi]
      exact (hp.primeRow hj').1
    · rw [if_neg (hrow h)]
      exact (hp.order h h').1
  · obtain ⟨j, hj, hf⟩ := hp.freeCol
    exact ⟨j, hj, fun i h => hf i ((hs i j).mp h)⟩

theorem Phase.star_turn (hm : Marks n C mk) (hp : Phase n mk rc cc tm t) (hr : r < n) (hrc : rc r = false)
    (hcc : cc c = false) {sc : Nat} (hstar : mk r sc = 1) :
    Phase n (set2 mk r c 2) (set1 rc r true) (set1 cc sc false) (set1 tm r t) (t + 1) := by
  have hs := set2_two_eq_one (hp.unmarked hrc hcc).1
  have hq := set2_eq_self_iff mk r c 2
  refine ⟨hp.primed hrc hcc, fun {i j} h => ?_, fun {i} => ?_, fun {j} => ?_, ?_⟩
  · rw [set1_apply]
    rcases (hq i j).mp h with ⟨hi, _⟩ | h
    · exact ⟨if_pos hi ▸ Nat.lt_succ_self t, sc, (hs ..).mpr (hi ▸ hstar)⟩
    · obtain ⟨ht, j', hj'⟩ := hp.primeRow h
      refine ⟨?_, j', (hs ..).mpr hj'⟩
      split
      · exact Nat.lt_succ_self t
      · exact Nat.lt_succ_of_lt ht
  · rw [set1_apply]
    by_cases hir : i = r
    · rw [if_pos hir]
      exact ⟨fun _ => ⟨c, (hq i c).mpr (Or.inl ⟨hir, rfl⟩)⟩, fun _ => rfl⟩
    · rw [if_neg hir, hp.rowCov]
      exact exists_congr fun j => ((hq i j).trans (or_iff_right fun h => hir h.1)).symm
  · simp only [hs, set1_apply]
    by_cases hj : j = sc
    · -- the star of column `sc` is the one in row `r`, now covered
      rw [if_pos hj]
      refine ⟨fun h => absurd h Bool.false_ne_true, fun ⟨i, h1, h2⟩ => ?_⟩
      rw [if_pos (hm.colU h1 (hj ▸ hstar))] at h2
      exact absurd h2.symm Bool.false_ne_true
    · rw [if_neg hj, hp.colCov]
      refine exists_congr fun i => and_congr_right fun h1 => ?_
      rw [if_neg fun (e : i = r) => hj (hm.rowU (e ▸ h1) hstar)]
  · rw [Nat.add_assoc, Nat.add_comm 1, uncov_cover hr hrc]
    exact hp.tcount

theorem Phase.last_turn (hp : Phase n mk rc cc tm t) (hrc : rc r = false) (hcc : cc c = false)
    (hno : ∀ j, mk r j ≠ 1) : Phase5 n (set2 mk r c 2) r c (set1 tm r t) := by
  refine ⟨hp.primed hrc hcc, ⟨(set2_eq_self_iff ..).mpr (Or.inl ⟨rfl, rfl⟩), fun j h => hno j ?_⟩, ?_⟩
  · exact (set2_two_eq_one (hp.unmarked hrc hcc).1 _ j).mp h
  · rw [set1_apply, if_pos rfl]
    exact hp.tcount ▸ Nat.le_add_right t _

end

/-- with a row more covered even a failing search costs no more than one that found a zero -/
theorem need4_turn {n : Nat} {s s₂ : St} {row col r sc : Nat} {p : Nat × Nat} (hz : findAZero s row col = some p)
    (hst : starcols n s₂.marked = starcols n s.marked) (hu : uncov n s₂.rowCov + 1 = uncov n s.rowCov) :
    need4 n s₂ r sc ≤ need4 n s row col := by
  have : (if findAZero s₂ r sc = none then 2 else 0) ≤ 2 := by split <;> decide
  simp only [need4, hst, hz, reduceCtorEq, if_false]
  omega

/-- every turn covers a row, hence the fuel -/
theorem step4_loop {C0 : Nat → Nat → ℚ} {n : Nat} (hn : 0 < n) : ∀ (f : Nat) (s : St) (tm : Nat → Nat) (t row col : Nat),
    Base C0 n s → Phase n s.marked s.rowCov s.colCov tm t → uncov n s.rowCov < f →
    ∃ s' nx, step4 f s row col = some (s', nx) ∧
      match nx with
      | .s5 => RI C0 n .p5 s' ∧ need n .p5 s' < need4 n s row col
      | .s6 => RI C0 n .p6 s' ∧ need n .p6 s' < need4 n s row col := by
  intro f
  induction f with
  | zero => exact fun s tm t row col _ _ h => absurd h (Nat.not_lt_zero _)
  | succ f ih =>
    intro s tm t row col hb hp hf
    unfold step4
    split
    · next hz => exact ⟨s, .s6, rfl, ⟨hb, tm, t, hp⟩, by simp only [need, need4, hz, if_true]; exact Nat.lt_succ_self _⟩
    · next r c hz =>
      obtain ⟨hr, hc, hzero, hrc, hcc⟩ := hb.hn ▸ findAZero_some hz (hb.hn ▸ hn)
      have hs := set2_two_eq_one (hp.unmarked hrc hcc).1
      have hb' : ∀ {rc' cc' zr zc}, Base C0 n
          { s with marked := set2 s.marked r c 2, rowCov := rc', colCov := cc', z0r := zr, z0c := zc } :=
        ⟨hb.hn, hb.feas, hb.marks.primed hr hc hzero (hp.unmarked hrc hcc).1⟩
      simp only
      split
      · next sc hsc =>
        have hstar : s.marked r sc = 1 := (hs r sc).mp (findStarInRow_some hsc).2
        have hu := uncov_cover hr hrc
        obtain ⟨s', nx, he, hres⟩ :=
          ih _ _ _ r sc hb' (hp.star_turn hb.marks hr hrc hcc hstar) (Nat.lt_of_succ_lt_succ (hu ▸ hf))
        refine ⟨s', nx, he, ?_⟩
        cases nx with
        | s5 => exact ⟨hres.1, Nat.lt_of_lt_of_le hres.2 (need4_turn hz (starcols_congr hs) hu)⟩
        | s6 => exact ⟨hres.1, Nat.lt_of_lt_of_le hres.2 (need4_turn hz (starcols_congr hs) hu)⟩
      · next hnone =>
        have hno : ∀ j, s.marked r j ≠ 1 := fun j h =>
          findStarInRow_none hnone j (hb.hn ▸ (hb.marks.star h).2.1) ((hs r j).mpr h)
        refine ⟨_, .s5, rfl, ⟨hb', _, hp.last_turn hrc hcc hno⟩, ?_⟩
        have := uncov_pos hr hrc
        simp only [need, need4, starcols_congr hs, hz, reduceCtorEq, if_false]
        omega

theorem step4_spec {C0 : Nat → Nat → ℚ} {n : Nat} {s : St} (hn : 0 < n) (h : RI C0 n .p4 s) :
    ∃ s' nx, step4 (s.n * s.n + 2) s 0 0 = some (s', nx) ∧
      match nx with
      | .s5 => RI C0 n .p5 s' ∧ need n .p5 s' < need n .p4 s
      | .s6 => RI C0 n .p6 s' ∧ need n .p6 s' < need n .p4 s := by
  obtain ⟨hb, tm, t, hp⟩ := h
  refine step4_loop hn _ s tm t 0 0 hb hp ?_
  rw [hb.hn]
  exact Nat.lt_of_le_of_lt ((uncov_le n _).trans (Nat.le_mul_self n)) (Nat.lt_add_of_pos_right Nat.two_pos)

end Mk
