import Mitx.Munkres.Step4
import Mathlib.Tactic.Ring
import Mathlib.Data.Fintype.EquivFin
/-! Steps 3 and 6, and the running minimum that step 6 shares with step 1. -/
namespace Mk
open Finset

/-- the fold both `rangeMin` (step 1) and `findSmallest` (step 6) run -/
theorem foldl_min_spec {α : Type} (f : α → Rat) (l : List α) (acc : Rat) :
    l.foldl (fun m x => if f x < m then f x else m) acc ≤ acc ∧
    (∀ x ∈ l, l.foldl (fun m x => if f x < m then f x else m) acc ≤ f x) ∧
    (l.foldl (fun m x => if f x < m then f x else m) acc = acc ∨
      ∃ x ∈ l, l.foldl (fun m x => if f x < m then f x else m) acc = f x) := by
  induction l generalizing acc with
  | nil => exact ⟨le_refl acc, fun x hx => (List.not_mem_nil hx).elim, Or.inl rfl⟩
  | cons a l ih =>
    rw [List.foldl_cons]
    obtain ⟨h1, h2, h3⟩ := ih (if f a < acc then f a else acc)
    have hle : (if f a < acc then f a else acc) ≤ acc ∧ (if f a < acc then f a else acc) ≤ f a := by
      split
      · next h => exact ⟨le_of_lt h, le_refl _⟩
      · next h => exact ⟨le_refl _, not_lt.mp h⟩
    refine ⟨h1.trans hle.1, List.forall_mem_cons.mpr ⟨h1.trans hle.2, h2⟩, ?_⟩
    rcases h3 with h3 | ⟨x, hx, h3⟩
    · rw [h3]
      split
      · exact Or.inr ⟨a, List.mem_cons_self .., rfl⟩
      · exact Or.inl rfl
    · exact Or.inr ⟨x, List.mem_cons_of_mem _ hx, h3⟩

theorem rangeMin_le (n : Nat) (f : Nat → Rat) (j : Nat) (hj : j < n) : rangeMin n f ≤ f j :=
  (foldl_min_spec f (List.range n) (f 0)).2.1 j (List.mem_range.mpr hj)

theorem findSmallest_spec {s : St} {i0 j0 : Nat} (hi0 : i0 < s.n) (hj0 : j0 < s.n)
    (hr0 : s.rowCov i0 = false) (hc0 : s.colCov j0 = false) :
    ∃ m, findSmallest s = some m ∧
      (∀ i j, i < s.n → j < s.n → s.rowCov i = false → s.colCov j = false → m ≤ s.C i j) ∧
      ∃ i j, i < s.n ∧ j < s.n ∧ s.rowCov i = false ∧ s.colCov j = false ∧ m = s.C i j := by
  unfold findSmallest
  simp only
  generalize hcells : ((List.range s.n).flatMap fun i => (List.range s.n).filterMap fun j =>
      if (!s.rowCov i && !s.colCov j) = true then some (s.C i j) else none) = cells
  have hmem : ∀ x, x ∈ cells ↔
      ∃ i j, i < s.n ∧ j < s.n ∧ s.rowCov i = false ∧ s.colCov j = false ∧ x = s.C i j := by
    intro x
    rw [← hcells]
    simp only [List.mem_flatMap, List.mem_range, List.mem_filterMap, Option.ite_none_right_eq_some,
      Bool.and_eq_true, Bool.not_eq_true', Option.some.injEq]
    constructor
    · rintro ⟨i, hi, j, hj, ⟨hr, hc⟩, rfl⟩
      exact ⟨i, j, hi, hj, hr, hc, rfl⟩
    · rintro ⟨i, j, hi, hj, hr, hc, rfl⟩
      exact ⟨i, hi, j, hj, ⟨hr, hc⟩, rfl⟩
  cases cells with
  | nil => exact absurd ((hmem _).mpr ⟨i0, j0, hi0, hj0, hr0, hc0, rfl⟩) List.not_mem_nil
  | cons a l =>
    obtain ⟨h1, h2, h3⟩ := foldl_min_spec id l a
    -- after the first cell the accumulator is `some _` for good: `some` maps the running minimum onto the fold
    refine ⟨_, List.foldl_hom some (g₁ := fun m x => if id x < m then id x else m) fun _ _ => rfl,
      fun i j hi hj hr hc => ?_, (hmem _).mp ?_⟩
    · rcases List.mem_cons.mp ((hmem _).mpr ⟨i, j, hi, hj, hr, hc, rfl⟩) with e | hx
      · rw [e]; exact h1
      · exact h2 _ hx
    · rcases h3 with h3 | ⟨x, hx, h3⟩
      · rw [h3]; exact List.mem_cons_self ..
      · rw [h3]; exact List.mem_cons_of_mem _ hx

section
variable {C0 : Nat → Nat → ℚ} {n : Nat} {s : St} {C : Nat → Nat → ℚ} {mk : Nat → Nat → Nat} {rc cc : Nat → Bool}
  {tm : Nat → Nat} {t : Nat}

theorem step6_eq (s : St) : step6 s = (findSmallest s).map (fun m =>
    { s with
      C := fun i j =>
        if !s.colCov j then (if s.rowCov i then s.C i j + m else s.C i j) - m
        else (if s.rowCov i then s.C i j + m else s.C i j) }) := by
  unfold step6
  cases findSmallest s <;> rfl

theorem Marks.exists_free_row (hm : Marks n C mk) (h : ∃ j, j < n ∧ ∀ i, mk i j ≠ 1) :
    ∃ i, i < n ∧ ∀ j, mk i j ≠ 1 := by
  obtain ⟨j0, hj0, hf⟩ := h
  -- pigeonhole: otherwise row ↦ column of its star is a bijection and hits `j0`
  by_contra hcon
  push Not at hcon
  choose g hg using fun i : Fin n => hcon i i.2
  have hinj : Function.Injective (fun i : Fin n => (⟨g i, (hm.star (hg i)).2.1⟩ : Fin n)) := fun i i' e =>
    Fin.ext (hm.colU (hg i) (show mk i' (g i) = 1 from (Fin.mk.inj e) ▸ hg i'))
  obtain ⟨i, hi⟩ := Finite.injective_iff_surjective.mp hinj ⟨j0, hj0⟩
  exact hf i ((Fin.mk.inj hi) ▸ hg i)

theorem Phase.uncovered_cell (hm : Marks n C mk) (hp : Phase n mk rc cc tm t) :
    ∃ i j, i < n ∧ j < n ∧ rc i = false ∧ cc j = false := by
  -- covered lines carry stars, so the star-free row and column are uncovered
  obtain ⟨j, hj, hfj⟩ := hp.freeCol
  obtain ⟨i, hi, hfi⟩ := hm.exists_free_row hp.freeCol
  refine ⟨i, j, hi, hj, eq_false_of_ne_true fun h => ?_, eq_false_of_ne_true fun h => ?_⟩
  · obtain ⟨j', h2⟩ := hp.rowCov.mp h
    obtain ⟨j'', h1⟩ := (hp.primeRow h2).2
    exact hfi j'' h1
  · obtain ⟨i', h1, _⟩ := hp.colCov.mp h
    exact hfj i' h1

/-- the dual update of step 6 on any covers: `m` onto the covered rows, off the uncovered columns -/
theorem Feas.shift (hf : Feas C0 n C) {m : ℚ} (hm0 : 0 ≤ m)
    (hle : ∀ i j, i < n → j < n → rc i = false → cc j = false → m ≤ C i j) :
    Feas C0 n fun i j => C i j + (if rc i = true then m else 0) - (if cc j = true then 0 else m) := by
  constructor
  · obtain ⟨u, v, huv⟩ := hf.pot
    refine ⟨fun i => u i - (if rc i = true then m else 0), fun j => v j + (if cc j = true then 0 else m), ?_⟩
    intro i j hi hj
    rw [huv i j hi hj]
    ring
  · intro i j hi hj
    have h0 := hf.nonneg i j hi hj
    rw [sub_nonneg]
    cases hc : cc j
    · cases hr : rc i
      · simpa only [Bool.false_eq_true, ↓reduceIte, add_zero] using hle i j hi hj hr hc
      · simpa only [Bool.false_eq_true, ↓reduceIte] using le_add_of_nonneg_left h0
    · cases rc i
      · simpa only [Bool.false_eq_true, ↓reduceIte, add_zero] using h0
      · simpa only [↓reduceIte] using add_nonneg h0 hm0

theorem step6_spec (h : RI C0 n .p6 s) :
    ∃ s', step6 s = some s' ∧ RI C0 n .p4 s' ∧ need n .p4 s' < need n .p6 s := by
  obtain ⟨hb, tm, t, hp⟩ := h
  obtain ⟨i0, j0, hi0, hj0, hr0, hc0⟩ := hp.uncovered_cell hb.marks
  obtain ⟨m, hm, hle, i1, j1, hi1, hj1, hr1, hc1, hmeq⟩ :=
    findSmallest_spec (hb.hn ▸ hi0) (hb.hn ▸ hj0) hr0 hc0
  rw [hb.hn] at hle hi1 hj1
  let s' : St :=
    { s with
      C := fun i j =>
        if !s.colCov j then (if s.rowCov i then s.C i j + m else s.C i j) - m
        else (if s.rowCov i then s.C i j + m else s.C i j) }
  have hC : s'.C
      = fun i j => s.C i j + (if s.rowCov i = true then m else 0) - (if s.colCov j = true then 0 else m) := by
    funext i j
    show (if !s.colCov j then _ else _) = _
    cases s.rowCov i <;> cases s.colCov j <;> simp
  -- the least uncovered entry has become an uncovered zero
  have hz : findAZero s' 0 0 ≠ none := by
    refine findAZero_complete (s := s') (i := i1) (j := j1) (hb.hn ▸ hi1) (hb.hn ▸ hj1) ?_ hr1 hc1
    rw [hC]
    simp [hr1, hc1, ← hmeq]
  refine ⟨s', by rw [step6_eq, hm]; rfl, ⟨⟨hb.hn, ?_, ?_, ?_, hb.marks.rowU, hb.marks.colU⟩, tm, t, hp⟩, ?_⟩
  · rw [hC]
    exact hb.feas.shift (hmeq ▸ hb.feas.nonneg i1 j1 hi1 hj1) hle
  -- a star has exactly one of its lines covered, a prime its row only
  · intro i j h
    obtain ⟨hi, hj, h0⟩ := hb.marks.star h
    refine ⟨hi, hj, ?_⟩
    rw [hC]
    simp only [h0, hp.cov_of_star hb.marks h]
    cases s.colCov j <;> simp
  · intro i j h
    obtain ⟨hi, hj, h0⟩ := hb.marks.prime h
    refine ⟨hi, hj, ?_⟩
    rw [hC]
    simp [h0, (hp.cov_of_prime h).1, (hp.cov_of_prime h).2]
  · simp only [need, need4, if_neg hz]
    exact Nat.lt_succ_self _

theorem filter_range_full_iff (n : Nat) (p : Nat → Bool) :
    n ≤ ((List.range n).filter p).length ↔ ∀ j, j < n → p j = true := by
  have hle := List.length_filter_le p (List.range n)
  rw [List.length_range] at hle
  constructor
  · intro h j hj
    refine List.length_filter_eq_length_iff.mp ?_ j (List.mem_range.mpr hj)
    rw [List.length_range]
    omega
  · intro h
    have := List.length_filter_eq_length_iff.mpr (fun j hj => h j (List.mem_range.mp hj))
    rw [List.length_range] at this
    omega

theorem step3_spec (h : RI C0 n .p3 s) :
    if (step3 s).2 = true then Done C0 n (step3 s).1
    else RI C0 n .p4 (step3 s).1 ∧ need n .p4 (step3 s).1 < need n .p3 s := by
  obtain ⟨hb, hc⟩ := h
  have hb' : Base C0 n (step3 s).1 := ⟨hb.hn, hb.feas, hb.marks⟩
  have hcc : ∀ j, (step3 s).1.colCov j = true ↔ ∃ i, s.marked i j = 1 := fun j => by
    show (s.colCov j || hasStar s.n s.marked j) = true ↔ _
    rw [hc.colClear j, Bool.false_or, hb.hn, hasStar_iff hb.marks]
  have hdone : (step3 s).2 = true ↔ ∀ j, j < n → ∃ i, s.marked i j = 1 := by
    simp only [step3, ge_iff_le, decide_eq_true_eq, filter_range_full_iff, hb.hn]
    refine forall₂_congr fun j _ => ?_
    rw [← hcc j]
    simp only [step3, hc.colClear j, hb.hn, Bool.not_false, Bool.true_and, Bool.false_or]
  split
  · next hd => exact ⟨hb', hdone.mp hd⟩
  · next hd =>
    have hu : uncov n (step3 s).1.rowCov = n := by
      have : (range n).filter (fun i => (step3 s).1.rowCov i = false) = range n :=
        filter_true_of_mem fun i _ => hc.rowClear i
      rw [uncov, this, card_range]
    have hfree : ∃ j, j < n ∧ ∀ i, s.marked i j ≠ 1 := by
      have := (not_congr hdone).mp hd
      push Not at this
      exact this
    -- no primes and no covered rows yet
    refine ⟨⟨hb', fun _ => 0, 0, ⟨fun h => (hc.noPrime _ _ h).elim, fun h => (hc.noPrime _ _ h).elim, hfree⟩,
      fun h => (hc.noPrime _ _ h).elim, ?_, ?_, by rw [hu, Nat.zero_add]⟩, ?_⟩
    · exact ⟨fun h => absurd ((hc.rowClear _).symm.trans h) Bool.false_ne_true, fun ⟨j, h⟩ => (hc.noPrime _ _ h).elim⟩
    · exact (hcc _).trans (exists_congr fun i => (and_iff_left (hc.rowClear i)).symm)
    · have : (if findAZero (step3 s).1 0 0 = none then 2 else 0) ≤ 2 := by split <;> decide
      simp only [need, need4, hu, show starcols n (step3 s).1.marked = starcols n s.marked from rfl]
      exact Nat.lt_succ_of_le (Nat.add_le_add_left this _)

end
end Mk
