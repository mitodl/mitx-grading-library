import Mitx.Munkres.Square
import Mathlib.Logic.Equiv.Fintype
import Mathlib.Data.List.OfFn
import Mathlib.Algebra.BigOperators.Fin
/-! Rectangular matrices: the stars of the zero-padded square, read inside the original `r × c` window, are a complete
    minimum-cost matching; padding changes neither the optimum nor the number of stars in the window. -/
namespace Mk
open Finset

structure IsRect (m : List (List Rat)) (r c : Nat) : Prop where
  rpos : 0 < r
  cpos : 0 < c
  rows : m.length = r
  cols : ∀ row ∈ m, row.length = c

/-- row and column indices duplicate-free, inside the `r × c` matrix -/
structure Matching (r c : Nat) (l : List (Nat × Nat)) : Prop where
  rowsNodup : (l.map Prod.fst).Nodup
  colsNodup : (l.map Prod.snd).Nodup
  inWin : ∀ p ∈ l, p.1 < r ∧ p.2 < c

/-- sum of the entries of `m` at the pairs of `l` -/
def cost (m : List (List Rat)) (l : List (Nat × Nat)) : Rat := (l.map (fun p => matFn m p.1 p.2)).sum

theorem matFn_out {m r c} (h : IsRect m r c) {i j : Nat} (hij : r ≤ i ∨ c ≤ j) : matFn m i j = 0 := by
  unfold matFn
  by_cases hi : i < m.length
  · have hl : m[i].length ≤ j := by
      rw [h.cols _ (List.getElem_mem hi)]
      exact hij.resolve_left (Nat.not_le.mpr (h.rows ▸ hi))
    simp only [List.getD_eq_getElem?_getD, List.getElem?_eq_getElem hi, List.getElem?_eq_none hl, Option.getD_some, Option.getD_none]
  · simp only [List.getD_eq_getElem?_getD, List.getElem?_eq_none (Nat.le_of_not_lt hi), Option.getD_none, List.getElem?_nil]

theorem nodup_lt_length_iff {l : List Nat} {k : Nat} (hnd : l.Nodup) (h1 : ∀ x ∈ l, x < k) :
    l.length = k ↔ ∀ x, x < k → x ∈ l := by
  have hsub : l.Subperm (List.range k) := hnd.subperm fun x hx => List.mem_range.mpr (h1 x hx)
  constructor
  · intro hlen x hx
    exact (hsub.perm_of_length_le (by simp [hlen])).mem_iff.mpr (List.mem_range.mpr hx)
  · intro h2
    have := hsub.length_le
    have := (List.nodup_range.subperm fun x hx => h2 x (List.mem_range.mp hx)).length_le
    simp only [List.length_range] at *
    omega

theorem Matching.rows_full_iff {r c : Nat} {l : List (Nat × Nat)} (hM : Matching r c l) :
    l.length = r ↔ ∀ i, i < r → i ∈ l.map Prod.fst := by
  rw [← List.length_map (f := Prod.fst)]
  refine nodup_lt_length_iff hM.rowsNodup fun x hx => ?_
  obtain ⟨p, hp, rfl⟩ := List.mem_map.mp hx
  exact (hM.inWin p hp).1

theorem Matching.cols_full_iff {r c : Nat} {l : List (Nat × Nat)} (hM : Matching r c l) :
    l.length = c ↔ ∀ j, j < c → j ∈ l.map Prod.snd := by
  rw [← List.length_map (f := Prod.snd)]
  refine nodup_lt_length_iff hM.colsNodup fun x hx => ?_
  obtain ⟨p, hp, rfl⟩ := List.mem_map.mp hx
  exact (hM.inWin p hp).2

theorem mem_window {mk r c} {p : Nat × Nat} : p ∈ window mk r c ↔ p.1 < r ∧ p.2 < c ∧ mk p.1 p.2 = 1 := by
  obtain ⟨a, b⟩ := p
  simp only [window, List.mem_flatMap, List.mem_range, List.mem_filterMap, Option.ite_none_right_eq_some,
    beq_iff_eq, Option.some.injEq, Prod.mk.injEq]
  exact ⟨fun ⟨i, hi, j, hj, h, e1, e2⟩ => e1 ▸ e2 ▸ ⟨hi, hj, h⟩, fun ⟨h1, h2, h3⟩ => ⟨a, h1, b, h2, h3, rfl, rfl⟩⟩

theorem window_nodup (mk : Nat → Nat → Nat) (r c : Nat) : (window mk r c).Nodup := by
  simp only [window, window_row]
  refine List.nodup_flatMap.mpr ⟨fun i _ => (List.nodup_range.filter _).map fun a b h => (Prod.mk.inj h).2,
    List.nodup_range.imp fun {a b} hab x hx hy => ?_⟩
  obtain ⟨_, _, rfl⟩ := List.mem_map.mp hx
  obtain ⟨_, _, e⟩ := List.mem_map.mp hy
  exact hab (Prod.mk.inj e).1.symm

theorem window_matching {C0 n s} (hb : Base C0 n s) (r c : Nat) : Matching r c (window s.marked r c) := by
  refine ⟨?_, ?_, fun p hp => ⟨(mem_window.mp hp).1, (mem_window.mp hp).2.1⟩⟩
  · refine List.Nodup.map_on (fun p hp q hq e => ?_) (window_nodup ..)
    exact Prod.ext e (hb.marks.rowU (mem_window.mp hp).2.2 (e ▸ (mem_window.mp hq).2.2))
  · refine List.Nodup.map_on (fun p hp q hq e => ?_) (window_nodup ..)
    exact Prod.ext (hb.marks.colU (mem_window.mp hp).2.2 (e ▸ (mem_window.mp hq).2.2)) e

section
variable {m : List (List Rat)} {r c n : Nat} {s : St} {σ : Equiv.Perm (Fin n)}

theorem window_length (hb : Base (matFn m) n s) (hσ : ∀ j : Fin n, s.marked (σ j) j = 1) (hn : n = max r c) :
    (window s.marked r c).length = min r c := by
  have hM := window_matching hb r c
  rcases Nat.le_total r c with hrc | hcr
  · have hnc : n = c := hn.trans (Nat.max_eq_right hrc)
    rw [Nat.min_eq_left hrc]
    refine hM.rows_full_iff.mpr fun i hi => ?_
    have hin : i < n := hnc ▸ Nat.lt_of_lt_of_le hi hrc
    have h1 : s.marked i (σ.symm ⟨i, hin⟩) = 1 := by simpa using hσ (σ.symm ⟨i, hin⟩)
    exact List.mem_map.mpr ⟨(i, ((σ.symm ⟨i, hin⟩ : Fin n) : Nat)),
      mem_window.mpr ⟨hi, Nat.lt_of_lt_of_eq (σ.symm ⟨i, hin⟩).2 hnc, h1⟩, rfl⟩
  · have hnr : n = r := hn.trans (Nat.max_eq_left hcr)
    rw [Nat.min_eq_right hcr]
    refine hM.cols_full_iff.mpr fun j hj => ?_
    have hjn : j < n := hnr ▸ Nat.lt_of_lt_of_le hj hcr
    exact List.mem_map.mpr ⟨(((σ ⟨j, hjn⟩ : Fin n) : Nat), j),
      mem_window.mpr ⟨Nat.lt_of_lt_of_eq (σ ⟨j, hjn⟩).2 hnr, hj, hσ ⟨j, hjn⟩⟩, rfl⟩

theorem window_cost (h : IsRect m r c) (hb : Base (matFn m) n s) (hσ : ∀ j : Fin n, s.marked (σ j) j = 1)
    (hn : n = max r c) : cost m (window s.marked r c) = ∑ j : Fin n, matFn m (σ j) j := by
  classical
  let S : Finset (Nat × Nat) := univ.image (fun j : Fin n => (((σ j : Fin n) : Nat), (j : Nat)))
  have hS : ∑ p ∈ S, matFn m p.1 p.2 = ∑ j : Fin n, matFn m (σ j) j :=
    sum_image fun a _ b _ e => Fin.ext (Prod.mk.inj e).2
  have hW : (window s.marked r c).toFinset = S.filter (fun p => p.1 < r ∧ p.2 < c) := by
    ext p
    simp only [List.mem_toFinset, mem_window, mem_filter, S, mem_image, mem_univ, true_and]
    constructor
    · rintro ⟨h1, h2, h3⟩
      have hjn : p.2 < n := Nat.lt_of_lt_of_le h2 (hn ▸ Nat.le_max_right r c)
      exact ⟨⟨⟨p.2, hjn⟩, Prod.ext (hb.marks.colU (hσ ⟨p.2, hjn⟩) h3) rfl⟩, h1, h2⟩
    · rintro ⟨⟨j, rfl⟩, h1, h2⟩
      exact ⟨h1, h2, hσ j⟩
  rw [cost, ← List.sum_toFinset _ (window_nodup ..), hW, ← hS, sum_filter]
  refine sum_congr rfl fun p _ => ite_eq_left_iff.mpr fun hp => ?_
  exact (matFn_out h ((not_and_or.mp hp).imp Nat.le_of_not_lt Nat.le_of_not_lt)).symm

/-- `Equiv.Perm.exists_extending_pair` extends column ↦ row of a full-size matching to a permutation of the padded
    square; what it adds is padding, so the cost is the same -/
theorem alt_as_perm (h : IsRect m r c) (hn : n = max r c) {alt : List (Nat × Nat)}
    (hM : Matching r c alt) (hlen : alt.length = min r c) :
    ∃ τ : Equiv.Perm (Fin n), ∑ j : Fin n, matFn m (τ j) j = cost m alt := by
  classical
  have hin := fun t : Fin alt.length => hM.inWin _ (List.getElem_mem t.2)
  have hr : r ≤ n := hn ▸ Nat.le_max_left r c
  have hc : c ≤ n := hn ▸ Nat.le_max_right r c
  let f : Fin alt.length → Fin n := fun t => ⟨(alt[(t : Nat)]'t.2).1, Nat.lt_of_lt_of_le (hin t).1 hr⟩
  let g : Fin alt.length → Fin n := fun t => ⟨(alt[(t : Nat)]'t.2).2, Nat.lt_of_lt_of_le (hin t).2 hc⟩
  have hf : Function.Injective f := fun a b e => Fin.ext <|
    (hM.rowsNodup.getElem_inj_iff (hi := by simp) (hj := by simp)).mp (by simpa [f] using e)
  have hg : Function.Injective g := fun a b e => Fin.ext <|
    (hM.colsNodup.getElem_inj_iff (hi := by simp) (hj := by simp)).mp (by simpa [g] using e)
  obtain ⟨τ, hτ⟩ := Equiv.Perm.exists_extending_pair g f hg hf
  refine ⟨τ, ?_⟩
  calc ∑ j, matFn m (τ j) j = ∑ j ∈ univ.image g, matFn m (τ j) j := ?_
    _ = ∑ t, matFn m (f t) (g t) := by
      rw [sum_image fun a _ b _ e => hg e]
      exact sum_congr rfl fun t _ => by rw [hτ]
    _ = cost m alt := by
      rw [cost, ← List.ofFn_getElem_eq_map, List.sum_ofFn]
  -- the side of length `min r c` is used up by `alt`, so a column off `alt` is padding or gets a padding row
  refine (sum_subset (subset_univ _) fun j _ hj => matFn_out h ?_).symm
  have hjg : ∀ t, g t ≠ j := fun t e => hj (mem_image.mpr ⟨t, mem_univ _, e⟩)
  by_contra hcon
  have hjr : (τ j : Nat) < r := Nat.lt_of_not_le fun h => hcon (Or.inl h)
  have hjc : (j : Nat) < c := Nat.lt_of_not_le fun h => hcon (Or.inr h)
  rcases Nat.le_total r c with hrc | hcr
  · obtain ⟨t, ht, e⟩ := List.getElem_of_mem (hM.rows_full_iff.mp (hlen.trans (Nat.min_eq_left hrc)) (τ j) hjr)
    rw [List.length_map] at ht
    have : f ⟨t, ht⟩ = τ j := Fin.ext (by simpa [f] using e)
    rw [← hτ] at this
    exact hjg _ (τ.injective this)
  · obtain ⟨t, ht, e⟩ := List.getElem_of_mem (hM.cols_full_iff.mp (hlen.trans (Nat.min_eq_right hcr)) j hjc)
    rw [List.length_map] at ht
    exact hjg ⟨t, ht⟩ (Fin.ext (by simpa [g] using e))

end

theorem compute_rect {m : List (List Rat)} {r c : Nat} (h : IsRect m r c) :
    ∃ out, compute m = some out ∧ Matching r c out ∧ out.length = min r c ∧
      ∀ alt, Matching r c alt → alt.length = min r c → cost m out ≤ cost m alt := by
  obtain ⟨s, hd, hc⟩ := compute_eq h.rpos h.rows h.cols
  obtain ⟨σ, hσ, hopt⟩ := done_optimal hd
  refine ⟨_, hc, window_matching hd.1 r c, window_length hd.1 hσ rfl, fun alt hM hlen => ?_⟩
  obtain ⟨τ, hτ⟩ := alt_as_perm h rfl hM hlen
  rw [window_cost h hd.1 hσ rfl, ← hτ]
  exact hopt τ

end Mk
