import Mitx.Munkres.Init
import Mitx.Munkres.Step5
import Mathlib.Algebra.BigOperators.Group.Finset.Basic
import Mathlib.Algebra.Order.BigOperators.Group.Finset
import Mathlib.Data.Fintype.BigOperators
/-! The step machine stops within the model's fuel in a `Done` state, and a `Done` state is an optimal assignment
    (weak duality). -/
namespace Mk
open Finset

/-- from any step and any state that meets its entry condition: `run` can only stop in a `Done` state, and with `need`
    fuel it does -/
theorem run_spec {C0 n} (hn : 0 < n) : ∀ (f : Nat) (pc : Pc) (s : St), RI C0 n pc s →
    (∀ s', run f pc s = some s' → Done C0 n s') ∧ (need n pc s < f → ∃ s', run f pc s = some s') := by
  intro f
  induction f with
  | zero => exact fun pc s _ => ⟨nofun, nofun⟩
  | succ f ih =>
    intro pc s hri
    have next : ∀ {pc' s'}, RI C0 n pc' s' → need n pc' s' < need n pc s →
        (∀ s'', run f pc' s' = some s'' → Done C0 n s'') ∧ (need n pc s < f + 1 → ∃ s'', run f pc' s' = some s'') :=
      fun hri' hlt => (ih _ _ hri').imp_right fun h hf => h (Nat.lt_of_lt_of_le hlt (Nat.le_of_lt_succ hf))
    cases pc with
    | p3 =>
      have h3 := step3_spec hri
      simp only [run]
      split at h3
      · next hd =>
        rw [if_pos hd]
        exact ⟨fun s' e => Option.some.inj e ▸ h3, fun _ => ⟨_, rfl⟩⟩
      · next hd => rw [if_neg hd]; exact next h3.1 h3.2
    | p4 =>
      obtain ⟨s', nx, he, hres⟩ := step4_spec hn hri
      simp only [run, he]
      cases nx with
      | s5 => exact next hres.1 hres.2
      | s6 => exact next hres.1 hres.2
    | p5 =>
      obtain ⟨s', he, hri', hlt⟩ := step5_spec hri
      simp only [run, he]
      exact next hri' hlt
    | p6 =>
      obtain ⟨s', he, hri', hlt⟩ := step6_spec hri
      simp only [run, he]
      exact next hri' hlt

theorem need_init_lt (n : Nat) (s : St) : need n .p3 s < 4 * n * n + 10 := by
  have h1 : (n - starcols n s.marked) * (2 * n + 4) ≤ 2 * (n * n) + 4 * n :=
    (Nat.mul_le_mul_right _ (Nat.sub_le _ _)).trans_eq (by rw [Nat.mul_add, Nat.mul_left_comm, Nat.mul_comm n 4])
  have h2 : ∀ n, 3 * n < n * n + 3
    | 0 | 1 | 2 => by decide
    | n + 3 => Nat.lt_of_le_of_lt (Nat.mul_le_mul_right (n + 3) (Nat.le_add_left 3 n)) (Nat.lt_add_of_pos_right (by decide))
  have := h2 n
  rw [need, Nat.mul_assoc 4]
  omega

/-- weak duality -/
theorem sum_le_of_tight {n : Nat} {C : Fin n → Fin n → ℚ} {u v : Fin n → ℚ} (feas : ∀ i j, u i + v j ≤ C i j)
    {σ : Equiv.Perm (Fin n)} (tight : ∀ j, C (σ j) j = u (σ j) + v j) (τ : Equiv.Perm (Fin n)) :
    ∑ j, C (σ j) j ≤ ∑ j, C (τ j) j :=
  calc ∑ j, C (σ j) j = ∑ j, (u (σ j) + v j) := sum_congr rfl fun j _ => tight j
    _ = ∑ j, (u (τ j) + v j) := by
      rw [sum_add_distrib, sum_add_distrib, Equiv.sum_comp σ u, Equiv.sum_comp τ u]
    _ ≤ ∑ j, C (τ j) j := sum_le_sum fun j _ => feas (τ j) j

theorem done_optimal {C0 n s} (h : Done C0 n s) :
    ∃ σ : Equiv.Perm (Fin n), (∀ j : Fin n, s.marked (σ j) j = 1) ∧
      ∀ τ : Equiv.Perm (Fin n), ∑ j, C0 (σ j) j ≤ ∑ j, C0 (τ j) j := by
  obtain ⟨hb, hall⟩ := h
  choose g hg using fun j : Fin n => hall j j.2
  have hinj : Function.Injective (fun j : Fin n => (⟨g j, (hb.marks.star (hg j)).1⟩ : Fin n)) := fun j j' e =>
    Fin.ext (hb.marks.rowU (hg j) (show s.marked (g j) j' = 1 from (Fin.mk.inj e) ▸ hg j'))
  refine ⟨Equiv.ofBijective _ (Finite.injective_iff_bijective.mp hinj), hg, ?_⟩
  obtain ⟨u, v, huv⟩ := hb.feas.pot
  refine sum_le_of_tight (C := fun i j => C0 i j) (u := fun i => u i) (v := fun j => v j) (fun i j => ?_) (fun j => ?_)
  · have h := hb.feas.nonneg i j i.2 j.2
    rwa [huv i j i.2 j.2, sub_sub, sub_nonneg] at h
  · have h := huv (g j) j (hb.marks.star (hg j)).1 j.2
    rw [(hb.marks.star (hg j)).2.2, eq_comm, sub_sub, sub_eq_zero] at h
    exact h

/-- Partial correctness of the whole solver on an n×n matrix: if the step machine finishes, the starred
    cells form a minimum-cost perfect matching. -/
theorem munkres_partial_correct {C0 n s0 f s} (hn : 0 < n) (h0 : Init C0 n s0)
    (h : run f .p3 (step2 (step1 s0)) = some s) :
    ∃ σ : Equiv.Perm (Fin n), (∀ j : Fin n, s.marked (σ j) j = 1) ∧
      ∀ τ : Equiv.Perm (Fin n), ∑ j, C0 (σ j) j ≤ ∑ j, C0 (τ j) j :=
  done_optimal ((run_spec hn f .p3 _ (init_spec h0)).1 s h)

theorem run_init {C0 n s0} (hn : 0 < n) (h0 : Init C0 n s0) :
    ∃ s, run (4 * n * n + 10) .p3 (step2 (step1 s0)) = some s ∧ Done C0 n s := by
  have h := run_spec hn (4 * n * n + 10) .p3 _ (init_spec h0)
  exact (h.2 (need_init_lt ..)).imp fun s hs => ⟨hs, h.1 s hs⟩

/-- Total correctness on an n×n matrix: with the fuel the model uses, the solver finishes, and what it
    returns is a minimum-cost perfect matching. -/
theorem munkres_total_correct {C0 n s0} (hn : 0 < n) (h0 : Init C0 n s0) :
    ∃ s, run (4 * n * n + 10) .p3 (step2 (step1 s0)) = some s ∧
      ∃ σ : Equiv.Perm (Fin n), (∀ j : Fin n, s.marked (σ j) j = 1) ∧
        ∀ τ : Equiv.Perm (Fin n), ∑ j, C0 (σ j) j ≤ ∑ j, C0 (τ j) j := by
  obtain ⟨s, hs, hd⟩ := run_init hn h0
  exact ⟨s, hs, done_optimal hd⟩

end Mk
#print axioms Mk.munkres_partial_correct
#print axioms Mk.munkres_total_correct
