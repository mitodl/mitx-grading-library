import Mitx.Model.Tol
import Mitx.Lemmas.MapM
import Mathlib.Algebra.Order.Ring.Abs
import Mathlib.Algebra.Order.Field.Rat
/-! Facts about the tolerance model `Tl` that several properties rest on: squared moduli and norms, the tolerance test at
difference 0, the loop of `consolidate_results` and the default-comparer path as a whole. -/
namespace Tl
def Val.isScalar : Val → Bool
  | .arr _ _ => false
  | _ => true

def Val.isInf : Val → Bool
  | .pinf => true
  | .ninf => true
  | _ => false

def Tolerance.nonneg : Tolerance → Prop
  | .abs t => 0 ≤ t
  | .pct r => 0 ≤ r

namespace C
theorem sq_nonneg (z : C) : 0 ≤ z.sq := add_nonneg (mul_self_nonneg _) (mul_self_nonneg _)

theorem sq_eq_zero (z : C) : z.sq = 0 ↔ z = ⟨0, 0⟩ := by
  cases z; simp only [C.sq, C.mk.injEq]; exact mul_self_add_mul_self_eq_zero

theorem sub_eq_zero (x y : C) : x.sub y = ⟨0, 0⟩ ↔ x = y := by
  cases x; cases y; simp [C.sub, _root_.sub_eq_zero]
end C

theorem sq_le_sq_iff_abs {d t : Rat} (ht : 0 ≤ t) : d * d ≤ t * t ↔ |d| ≤ t := by
  rw [← abs_mul_abs_self d]; exact (mul_self_le_mul_self_iff (abs_nonneg d) ht).symm

theorem sqnorm_cons (a : C) (as : List C) : sqnorm (a :: as) = a.sq + sqnorm as := by
  rw [sqnorm, sqnorm, ← List.sum_eq_foldl, ← List.sum_eq_foldl, List.map_cons, List.sum_cons]

theorem sqnorm_subL_self (es : List C) : sqnorm (subL es es) = 0 := by
  induction es with
  | nil => rfl
  | cons a as ih => rw [subL, sqnorm_cons, ih]; simp [C.sub, C.sq]

theorem sqnorm_nonneg (es : List C) : 0 ≤ sqnorm es := by
  induction es with
  | nil => exact le_refl _
  | cons a as ih => rw [sqnorm_cons]; exact add_nonneg a.sq_nonneg ih

theorem leTol_zero {x2 : Rat} {tol : Tolerance} (ht : tol.nonneg) (hx : 0 ≤ x2) : leTol 0 x2 tol = true := by
  cases tol <;> simp only [leTol, Bool.and_eq_true, decide_eq_true_eq]
  · exact ⟨ht, mul_self_nonneg _⟩
  · exact ⟨ht, mul_nonneg hx (mul_self_nonneg _)⟩

theorem sampleResult_false (g : Rat) : sampleResult g false = { ok := .no, grade := 0, msg := "" } := by
  simp [sampleResult, At.gradeToOk]

end Tl

namespace C04
open Tl At

/-- number of samples at which the comparison failed -/
def failures (vs : List Bool) : Nat := (vs.filter (fun v => !v)).length

theorem loop_spec (n fe : Nat) (answer : Res) (g : Rat) : ∀ (vs : List Bool) (k : Nat),
    consolidateLoop n fe answer (vs.map (sampleResult g)) k =
      if failures vs = 0 ∨ (n ≠ 1 ∧ k + failures vs ≤ fe) then answer else sampleResult g false
  | [], k => by simp [consolidateLoop, failures]
  | true :: vs, k => by
    have hf : failures (true :: vs) = failures vs := rfl
    rw [List.map_cons, consolidateLoop, if_neg (by simp [sampleResult]), hf]
    exact loop_spec n fe answer g vs k
  | false :: vs, k => by
    have hf : failures (false :: vs) = failures vs + 1 := rfl
    -- the loop goes on iff the early return is not taken; then one more failure has been counted
    have hB : (failures vs + 1 = 0 ∨ (n ≠ 1 ∧ k + (failures vs + 1) ≤ fe)) ↔
        ¬ (n = 1 ∨ k + 1 > fe) ∧ (failures vs = 0 ∨ (n ≠ 1 ∧ k + 1 + failures vs ≤ fe)) := by omega
    rw [List.map_cons, consolidateLoop, if_pos (by simp [sampleResult_false]), loop_spec n fe answer g vs (k + 1), hf,
      if_congr hB rfl rfl, ite_and, ite_not]

/-- the rule of the property: a single-sample grader tolerates no failure, otherwise up to `failable_evals` -/
def passes (vs : List Bool) (fe : Nat) : Prop :=
  if vs.length = 1 then failures vs = 0 else failures vs ≤ fe

instance (vs : List Bool) (fe : Nat) : Decidable (passes vs fe) := by unfold passes; infer_instance

/-- **The decision rule**: the matched answer's result (its credit, `ok`, message) is returned exactly when the number
of failing samples does not exceed `failable_evals` (no failure at all for a single sample); otherwise the result is
grade 0 / `ok = False`. -/
theorem consolidate_iff (vs : List Bool) (answer : Res) (fe : Nat) :
    consolidateResults (vs.map (sampleResult answer.grade)) answer fe =
      if passes vs fe then answer else { ok := .no, grade := 0, msg := "" } := by
  have hc : (failures vs = 0 ∨ vs.length ≠ 1 ∧ failures vs ≤ fe) ↔ passes vs fe := by
    unfold passes; split_ifs <;> omega
  rw [consolidateResults, loop_spec, sampleResult_false, List.length_map, Nat.zero_add, if_congr hc rfl rfl]

theorem formulaGrade_iff {samples : List (Val × Val)} {tol : Tolerance} {answer : Res} {fe : Nat} {r : Res}
    (h : formulaGrade samples tol answer fe = some r) :
    ∃ vs, samples.mapM (fun p => withinTol p.1 p.2 tol) = some vs ∧ vs.length = samples.length ∧
      r = if passes vs fe then answer else { ok := .no, grade := 0, msg := "" } := by
  unfold formulaGrade at h
  cases hm : samples.mapM (fun p => withinTol p.1 p.2 tol) with
  | none => rw [hm] at h; cases h
  | some vs =>
    rw [hm] at h
    simp only [Option.some.injEq] at h
    refine ⟨vs, rfl, ?_, ?_⟩
    · exact (List.mapM_eq_some_iff.mp hm).length_eq.symm
    · rw [← h, consolidate_iff]

end C04
