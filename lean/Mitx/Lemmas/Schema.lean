import Mitx.Model.Schema
import Mitx.Lemmas.Except
/-! `validateFields` in closed form: the result is the list of bound options. Core Lean only. -/
namespace Sc

variable (prims : String → PyVal → Bool)

/-- the value an option ends up with: the supplied one, else its default -/
def bound (cfg : List (String × PyVal)) (f : Field) : Option PyVal :=
  match cfg.lookup f.name with
  | some v => some v
  | Option.none => f.default

theorem validateFields_ok_iff {fields : List Field} {cfg out : List (String × PyVal)} :
    validateFields prims fields cfg = .ok out ↔
      (∀ f ∈ fields, ∀ v, cfg.lookup f.name = some v → accepts prims f.spec v = true) ∧
      (∀ f ∈ fields, bound cfg f = Option.none → f.required = false) ∧
      fields.filterMap (fun f => (bound cfg f).map (f.name, ·)) = out := by
  induction fields generalizing out with
  | nil => simp [validateFields]
  | cons g gs ih =>
    have hb : bound cfg g = (match cfg.lookup g.name with | some v => some v | Option.none => g.default) := rfl
    simp only [validateFields, List.forall_mem_cons, List.filterMap_cons, hb]
    cases hv : cfg.lookup g.name with
    | some v =>
      by_cases ha : accepts prims g.spec v = true
      · simp [ha, Except.map_eq_ok_iff, ih, and_assoc]
      · simp [ha]
    | none =>
      cases hd : g.default with
      | some d => simp [Except.map_eq_ok_iff, ih, and_assoc]
      | none => cases hq : g.required <;> simp [ih]

theorem lookup_filterMap_name {b : Field → Option PyVal} : ∀ {fields : List Field}, (fields.map (·.name)).Nodup →
    ∀ f ∈ fields, (fields.filterMap (fun f => (b f).map (f.name, ·))).lookup f.name = b f
  | g :: gs, hnd, f, hf => by
    obtain ⟨hg, hnd⟩ := List.nodup_cons.mp hnd
    rcases List.mem_cons.mp hf with rfl | hf
    · cases hb : b f with
      | some v => simp [hb]
      | none =>
        simp only [List.filterMap_cons, hb, Option.map_none, List.lookup_eq_none_iff, List.mem_filterMap]
        rintro _ ⟨g, hg', hp⟩
        cases hbg : b g <;> simp only [hbg, Option.map_none, Option.map_some, reduceCtorEq, Option.some.injEq] at hp
        subst hp
        simpa using fun e => hg (List.mem_map.mpr ⟨g, hg', e.symm⟩)
    · have hne : (f.name == g.name) = false := by
        simpa using fun e => hg (List.mem_map.mpr ⟨f, hf, e⟩)
      cases hb : b g <;> simp [hb, List.lookup, hne, lookup_filterMap_name hnd f hf]

end Sc
