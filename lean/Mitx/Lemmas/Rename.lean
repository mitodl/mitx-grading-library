import Mitx.Parser.Usage
import Mitx.Parser.Sem
/-! α-renaming: evaluating a tree whose variables have been renamed, in an algebra whose variable lookup is renamed
accordingly, gives the same value. Used for "the summation variable may be renamed freely" (C19). Core Lean only. -/
namespace C03

mutual
def mapVars (ρ : String → String) : T → T
  | .num txt suf => .num txt suf
  | .var s => .var (ρ s)
  | .call f args => .call f (mapVarsL ρ args)
  | .arr xs => .arr (mapVarsL ρ xs)
  | .paren t => .paren (mapVars ρ t)
  | .power b rest => .power (mapVars ρ b) (mapVarsP ρ rest)
  | .neg t => .neg (mapVars ρ t)
  | .par a rest => .par (mapVars ρ a) (mapVarsL ρ rest)
  | .prod a rest => .prod (mapVars ρ a) (mapVarsP ρ rest)
  | .sum l a rest => .sum l (mapVars ρ a) (mapVarsP ρ rest)
def mapVarsL (ρ : String → String) : List T → List T
  | [] => []
  | t :: ts => mapVars ρ t :: mapVarsL ρ ts
def mapVarsP (ρ : String → String) : List (Bool × T) → List (Bool × T)
  | [] => []
  | (b, t) :: ts => (b, mapVars ρ t) :: mapVarsP ρ ts
end

variable {V : Type}

/-- the algebra `A` with another variable lookup -/
def Alg.withVar (A : Alg V) (g : String → V) : Alg V := { A with var := g }

theorem expo_withVar (A : Alg V) (g : String → V) : ∀ l : List (Bool × V), expo (A.withVar g) l = expo A l
  | [] => rfl
  | (s, e) :: rest => by simp only [expo, expo_withVar A g rest]; rfl

mutual
theorem evalT_mapVars (A : Alg V) (g : String → V) (ρ : String → String) :
    ∀ (t : T), (∀ s, (Kind.var, s) ∈ names t → g (ρ s) = A.var s) → evalT (A.withVar g) (mapVars ρ t) = evalT A t
  | .num txt suf, _ => rfl
  | .var s, h => h s List.mem_cons_self
  | .call f args, h => by
    simp only [mapVars, evalT]
    rw [evalL_mapVars A g ρ args fun s hs => h s (List.mem_append_left _ hs)]; rfl
  | .arr xs, h => by
    simp only [mapVars, evalT]
    rw [evalL_mapVars A g ρ xs h]; rfl
  | .paren t, h => by
    simp only [mapVars, evalT]
    exact evalT_mapVars A g ρ t h
  | .power b rest, h => by
    simp only [mapVars, evalT]
    rw [evalT_mapVars A g ρ b fun s hs => h s (List.mem_append_left _ hs),
        evalP_mapVars A g ρ rest fun s hs => h s (List.mem_append_right _ hs), expo_withVar]
    rfl
  | .neg t, h => by
    simp only [mapVars, evalT]
    rw [evalT_mapVars A g ρ t h]; rfl
  | .par a rest, h => by
    simp only [mapVars, evalT]
    rw [evalT_mapVars A g ρ a fun s hs => h s (List.mem_append_left _ hs),
        evalL_mapVars A g ρ rest fun s hs => h s (List.mem_append_right _ hs)]
    rfl
  | .prod a rest, h => by
    simp only [mapVars, evalT]
    rw [evalT_mapVars A g ρ a fun s hs => h s (List.mem_append_left _ hs),
        evalP_mapVars A g ρ rest fun s hs => h s (List.mem_append_right _ hs)]
    rfl
  | .sum l a rest, h => by
    simp only [mapVars, evalT]
    rw [evalT_mapVars A g ρ a fun s hs => h s (List.mem_append_left _ hs),
        evalP_mapVars A g ρ rest fun s hs => h s (List.mem_append_right _ hs)]
    rfl
theorem evalL_mapVars (A : Alg V) (g : String → V) (ρ : String → String) :
    ∀ (ts : List T), (∀ s, (Kind.var, s) ∈ namesL ts → g (ρ s) = A.var s) → evalL (A.withVar g) (mapVarsL ρ ts) = evalL A ts
  | [], _ => rfl
  | t :: ts, h => by
    simp only [mapVarsL, evalL]
    rw [evalT_mapVars A g ρ t fun s hs => h s (List.mem_append_left _ hs),
        evalL_mapVars A g ρ ts fun s hs => h s (List.mem_append_right _ hs)]
theorem evalP_mapVars (A : Alg V) (g : String → V) (ρ : String → String) :
    ∀ (ps : List (Bool × T)), (∀ s, (Kind.var, s) ∈ namesP ps → g (ρ s) = A.var s) → evalP (A.withVar g) (mapVarsP ρ ps) = evalP A ps
  | [], _ => rfl
  | (b, t) :: ps, h => by
    simp only [mapVarsP, evalP]
    rw [evalT_mapVars A g ρ t fun s hs => h s (List.mem_append_left _ hs),
        evalP_mapVars A g ρ ps fun s hs => h s (List.mem_append_right _ hs)]
end

/-- binding one variable (the summation index) on top of a scope -/
def Alg.bind (A : Alg V) (v : String) (x : V) : Alg V := A.withVar (fun s => if s = v then x else A.var s)

/-- renaming exactly one variable -/
def rename1 (v v' : String) : String → String := fun s => if s = v then v' else s

/-- **α-renaming of a bound variable.** If `v'` does not occur as a variable in `t`, evaluating `t` with `v` bound to `x`
    equals evaluating `t[v := v']` with `v'` bound to `x` — in any operator algebra (floats and arrays included). -/
theorem evalT_rename_bound (A : Alg V) (v v' : String) (x : V) (t : T) (hfresh : (Kind.var, v') ∉ names t) :
    evalT (A.bind v' x) (mapVars (rename1 v v') t) = evalT (A.bind v x) t := by
  have key := evalT_mapVars (A.bind v x) (fun s => if s = v' then x else A.var s) (rename1 v v') t (by
    intro s hs
    by_cases hsv : s = v
    · subst hsv; simp [rename1, Alg.bind, Alg.withVar]
    · have hne : s ≠ v' := by intro e; subst e; exact hfresh hs
      simp [rename1, hsv, hne, Alg.bind, Alg.withVar])
  simpa [Alg.bind, Alg.withVar] using key

end C03
