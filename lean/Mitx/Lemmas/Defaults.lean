import Mitx.Model.Defaults
/-! Lemmas about the registered-defaults model: `update` is "right-biased union", the heap is only extended. -/
namespace Rd

theorem lookup_cons (kv : String × String) (d : Dict) (k : String) :
    lookup (kv :: d) k = if kv.1 = k then some kv.2 else lookup d k := by
  by_cases h : kv.1 = k <;> simp [lookup, h]

theorem lookup_set (d : Dict) (k v k' : String) : lookup (set d k v) k' = if k' = k then some v else lookup d k' := by
  unfold set lookup
  split
  · next hany =>
    -- the map keeps every key, so `find?` stops at the same entry
    have hf : ((fun kv : String × String => kv.1 == k') ∘ fun kv => if kv.1 == k then (k, v) else kv) = fun kv => kv.1 == k' := by
      funext kv; by_cases h : kv.1 = k <;> simp [h]
    rw [List.find?_map, hf]
    cases hfind : d.find? (fun kv => kv.1 == k') with
    | none =>
      have : k' ≠ k := by
        rintro rfl
        obtain ⟨x, hx, hxk⟩ := List.any_eq_true.mp hany
        exact List.find?_eq_none.mp hfind x hx hxk
      simp [this]
    | some kv =>
      have : kv.1 = k' := by simpa using List.find?_some hfind
      by_cases h : k' = k <;> simp [this, h]
  · next hany =>
    rw [List.find?_append]
    by_cases h : k' = k
    · subst h
      have : d.find? (fun kv => kv.1 == k') = none :=
        List.find?_eq_none.mpr fun x hx hxk => hany (List.any_eq_true.mpr ⟨x, hx, hxk⟩)
      simp [this]
    · have : (k == k') = false := by simpa using Ne.symm h
      cases d.find? (fun kv => kv.1 == k') <;> simp [this, h]

/-- Python dictionaries have one entry per key -/
def KeysNodup (d : Dict) : Prop := d.Pairwise (fun a b => a.1 ≠ b.1)

theorem lookup_append (a b : Dict) (k : String) : lookup (a ++ b) k = ((lookup a k).orElse fun _ => lookup b k) := by
  unfold lookup
  rw [List.find?_append]
  cases a.find? (fun kv => kv.1 == k) <;> rfl

/-- `d.update(u)`: of several entries of `u` for one key the last wins, and `u` wins over `d` -/
theorem lookup_update (d u : Dict) (k : String) :
    lookup (update d u) k = ((lookup u.reverse k).orElse fun _ => lookup d k) := by
  induction u generalizing d with
  | nil => rfl
  | cons kv rest ih =>
    have : update d (kv :: rest) = update (set d kv.1 kv.2) rest := rfl
    rw [this, ih, lookup_set, List.reverse_cons, lookup_append, lookup_cons]
    cases lookup rest.reverse k with
    | some x => rfl
    | none =>
      by_cases hk : kv.1 = k
      · simp [hk]
      · simp [hk, Ne.symm hk, lookup]

theorem lookup_update_of_nodup {d u : Dict} {k : String} (h : KeysNodup u) :
    lookup (update d u) k = ((lookup u k).orElse fun _ => lookup d k) := by
  induction u generalizing d with
  | nil => rfl
  | cons kv rest ih =>
    obtain ⟨hkv, hrest⟩ := List.pairwise_cons.mp h
    have : update d (kv :: rest) = update (set d kv.1 kv.2) rest := rfl
    rw [this, ih hrest, lookup_set, lookup_cons]
    by_cases hk : kv.1 = k
    · have : lookup rest k = none := by
        simp only [lookup, Option.map_eq_none_iff, List.find?_eq_none, beq_iff_eq]
        exact fun x hx hxk => hkv x hx (hk.trans hxk.symm)
      simp [this, hk]
    · simp [hk, Ne.symm hk]

/-- all identities in use are below the allocation pointer -/
def Heap.WF (h : Heap) : Prop := ∀ c ∈ h.cells, c.1 < h.next

theorem get_alloc_old (h : Heap) (d : Dict) (i : Nat) (hi : i ≠ h.next) : (h.alloc d).1.get i = h.get i := by
  unfold Heap.alloc Heap.get
  simp only [List.find?_append]
  cases hf : List.find? (fun c => c.1 == i) h.cells with
  | some x => simp
  | none =>
    have : (h.next == i) = false := by simp; exact fun e => hi e.symm
    simp [this]

theorem get_alloc_new (h : Heap) (hw : h.WF) (d : Dict) : (h.alloc d).1.get h.next = d := by
  unfold Heap.alloc Heap.get
  simp only [List.find?_append]
  have : List.find? (fun c => c.1 == h.next) h.cells = none := by
    rw [List.find?_eq_none]; intro x hx hxe
    have := hw x hx
    simp at hxe; omega
  simp [this]

theorem lookup_baseOf (h : Heap) (chain : List (Option Nat)) (k : String)
    (hnd : ∀ i, some i ∈ chain → KeysNodup (h.get i)) :
    lookup (baseOf h chain) k = chain.findSome? (classLookup h k) := by
  induction chain with
  | nil => rfl
  | cons e rest ih =>
    have ih' := ih (fun i hi => hnd i (by simp [hi]))
    unfold baseOf at ih' ⊢
    rw [List.reverse_cons, List.foldl_append]
    simp only [List.foldl_cons, List.foldl_nil, List.findSome?_cons]
    cases e with
    | none => simpa [classLookup, classStep] using ih'
    | some i =>
      simp only [classLookup, classStep]
      rw [lookup_update_of_nodup (hnd i (by simp)), ih']
      cases lookup (h.get i) k <;> simp

end Rd
