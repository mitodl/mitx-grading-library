import Mitx.Model.CallState
/-! `mkLog` and `baseCall` touch only the log and its flag; the verdict depends only on the stored answers -/
namespace CS

variable (p : P)

theorem mkLog_state (s : St p) (i : String) :
    (mkLog p s i).answers = s.answers ∧ (mkLog p s i).inferring = s.inferring := by
  unfold mkLog
  split <;> exact ⟨rfl, rfl⟩

theorem baseCall_state (s : St p) (i : String) :
    (baseCall p s i).1.answers = s.answers ∧ (baseCall p s i).1.inferring = s.inferring ∧ (baseCall p s i).1.logCreated = false := by
  unfold baseCall
  split <;> simp [mkLog_state]

theorem baseCall_out (s : St p) (i : String) :
    (baseCall p s i).2.1 = if p.textOK i then (match s.answers with | none => p.gradeNone i | some a => p.grade a i) else p.errText i := by
  unfold baseCall
  split <;> simp only [mkLog_state] <;> rfl

theorem call_not_inferring (s : St p) (a : p.Ans) (ha : s.answers = some a) (hi : s.inferring = false) (e : Option String)
    (i : String) : call p s e i = baseCall p s i := by
  cases e <;> simp [call, ha, hi]

theorem call_log (s : St p) (hlc : s.logCreated = false) (e : Option String) (i : String) :
    (call p s e i).1.logCreated = false ∧
    ∀ x ∈ (call p s e i).2.2, x = "input:" ++ i ∨ ∃ e', e = some e' ∧ x = "inferred:" ++ e' := by
  have base : (baseCall p s i).1.logCreated = false ∧ ∀ x ∈ (baseCall p s i).2.2, x = "input:" ++ i := by
    by_cases ht : p.textOK i <;> simp [baseCall, mkLog, ht, hlc]
  unfold call
  split
  · next e' =>
    split
    · cases hv : p.validate e' with
      | none => simp [hlc]
      | some a => by_cases ht : p.textOK i <;> simp [baseCall, mkLog, ht, hlc]
    · exact ⟨base.1, fun x hx => Or.inl (base.2 x hx)⟩
  · exact ⟨base.1, fun x hx => Or.inl (base.2 x hx)⟩

end CS
