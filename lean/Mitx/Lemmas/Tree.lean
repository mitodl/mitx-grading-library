import Mitx.Model.Tree
import Mitx.Props.C01
/-! Induction over grader trees: every grader built from table leaves, SingleListGraders and (nested, grouped) ListGraders
returns entries with a grade in [0,1] whose `ok` is consistent with the grade (unless the author pinned `ok`). -/
namespace Gr
open C01

/-- `pin = false`: the author pinned no `ok` anywhere; then `ok` consistency is part of the contract -/
def Good (pin : Bool) (r : IRes) : Prop := WF r ∧ (pin = false → OkConsistent r)

def TabWF (tab : List TabEntry) : Prop := ∀ t ∈ tab, 0 ≤ t.credit ∧ t.credit ≤ 1

def ITree.TabsWF : ITree → Prop
  | .table tab _ => TabWF tab
  | .singlelist _ _ sub => sub.TabsWF

mutual
/-- well-formed `expect` entries: a text, or a non-empty list of item-answer lists that are well formed -/
inductive ExpWF (pin : Bool) : UExp → Prop
  | str (s : String) : ExpWF pin (.str s)
  | items (l : List (List (Answer UExp))) : l ≠ [] → (∀ a ∈ l, AnsWF pin a) → ExpWF pin (.items l)
/-- well-formed answers of an item grader: credits in [0,1] (and unpinned `ok` when `pin = false`), recursively -/
inductive AnsWF (pin : Bool) : List (Answer UExp) → Prop
  | mk (l : List (Answer UExp)) :
      (∀ a ∈ l, 0 ≤ a.am.grade ∧ a.am.grade ≤ 1 ∧ (pin = false → a.am.ok = At.gradeToOk a.am.grade)) →
      (∀ a ∈ l, ∀ e ∈ a.expect, ExpWF pin e) → AnsWF pin l
end

section Good
variable {pin : Bool} {r r' : IRes}

theorem Good.of_eq (h : Good pin r) (ho : r'.ok = r.ok) (hg : r'.grade = r.grade) : Good pin r' := by
  unfold Good WF OkConsistent at *
  rwa [ho, hg]

theorem Good.of_wf (h : WF r ∧ OkConsistent r) : Good pin r := ⟨h.1, fun _ => h.2⟩

theorem Good.zero (hg : r.grade = 0) (ho : r.ok = .no) : Good pin r := by
  unfold Good WF OkConsistent
  rw [hg, ho]
  exact ⟨⟨le_rfl, zero_le_one⟩, fun _ => rfl⟩

theorem Good.mul {a b : ℚ} (ha0 : 0 ≤ a) (ha1 : a ≤ 1) (hb0 : 0 ≤ b) (hb1 : b ≤ 1) (hg : r.grade = a * b)
    (ho : r.ok = At.gradeToOk r.grade) : Good pin r :=
  ⟨by unfold WF; rw [hg]; exact ⟨mul_nonneg ha0 hb0, mul_le_one₀ ha1 hb0 hb1⟩, fun _ => ho⟩

end Good

theorem mem_expand {ε : Type} {answers : List (Answer ε)} {p : AnsMeta × ε} :
    p ∈ expand answers ↔ ∃ a ∈ answers, p.1 = a.am ∧ p.2 ∈ a.expect := by
  simp only [expand, List.mem_flatMap, List.mem_map]
  exact ⟨fun ⟨a, ha, e, he, h⟩ => ⟨a, ha, h ▸ ⟨rfl, he⟩⟩, fun ⟨a, ha, h1, h2⟩ => ⟨a, ha, p.2, h2, Prod.ext h1.symm rfl⟩⟩

theorem itemCheck_good {ε : Type} {cr : AnsMeta → ε → String → M IRes} {w : String} {answers : List (Answer ε)} {inp : String} {out : IRes}
    {pin : Bool} (hleaf : ∀ p ∈ expand answers, ∀ r, cr p.1 p.2 inp = .ok r → Good pin r)
    (h : itemCheck cr w answers inp = .ok out) : Good pin out := by
  obtain ⟨p, hp, r, hr, ho, hg⟩ := itemCheck_mem h
  exact (hleaf p hp r hr).of_eq ho hg

theorem tableCR_good {tab : List TabEntry} (ht : TabWF tab) {pin : Bool} {m : AnsMeta} (hm0 : 0 ≤ m.grade) (hm1 : m.grade ≤ 1)
    (hok : pin = false → m.ok = At.gradeToOk m.grade) {e : UExp} {inp : String} {r : IRes} (h : tableCR tab m e inp = .ok r) :
    Good pin r := by
  unfold tableCR at h
  cases e with
  | items l => cases h
  | str k =>
    dsimp only at h
    cases hfind : tab.find? (fun t => t.key == (k, inp)) with
    | none => simp only [hfind] at h; cases h; exact Good.zero rfl rfl
    | some t =>
      obtain ⟨c0, c1⟩ := ht t (List.mem_of_find?_eq_some hfind)
      simp only [hfind] at h
      split at h
      · cases h
      · cases h
      · cases h
        -- `==` on `ℚ` is `decide (· = ·)`
        by_cases hc1 : t.credit = 1
        · rw [if_pos (show (t.credit == 1) = true from decide_eq_true hc1), hc1, one_mul]
          exact ⟨⟨hm0, hm1⟩, hok⟩
        · exact Good.mul c0 c1 hm0 hm1 rfl (if_neg (mt of_decide_eq_true hc1))

theorem slCheckResponse_good {α : Type} {cfg : SLCfg} {sub : α → String → M IRes} {pin : Bool} {m : AnsMeta} {items : List α}
    {inp : String} {out : IRes} (hne : items ≠ []) (hm0 : 0 ≤ m.grade) (hm1 : m.grade ≤ 1)
    (hsub : ∀ a ∈ items, ∀ i r, sub a i = .ok r → Good pin r)
    (h : slCheckResponse cfg sub m items inp = .ok out) : Good pin out := by
  rw [slCheckResponse_eq, Except.map_eq_ok_iff] at h
  obtain ⟨gl, hgl, rfl⟩ := h
  have hall : ∀ r ∈ gl, r.grade ≤ 1 := fun r hr => by
    rcases slGradeList_mem hgl r hr with rfl | ⟨a, ha, i, hr⟩
    · exact zero_le_one
    · exact (hsub a ha i r hr).1.2
  exact .of_wf (processGradeList_wf cfg gl items.length m (List.length_pos_iff.mpr hne) hall hm0 hm1)

theorem ITree.check_good (pin : Bool) : ∀ (t : ITree), t.TabsWF → ∀ (ans : List (Answer UExp)) (inp : String) (out : IRes),
    AnsWF pin ans → t.check ans inp = .ok out → Good pin out
  | .table tab w, ht, ans, inp, out, .mk _ hmeta _, h => by
    refine itemCheck_good (cr := tableCR tab) (fun p hp r hr => ?_) h
    obtain ⟨a, ha, e1, _⟩ := mem_expand.mp hp
    obtain ⟨g0, g1, gok⟩ := hmeta a ha
    exact tableCR_good ht g0 g1 gok (e1 ▸ hr)
  | .singlelist cfg w sub, ht, ans, inp, out, .mk _ hmeta hexp, h => by
    refine itemCheck_good (cr := slCR cfg sub.check) (fun ⟨m, e⟩ hp r hr => ?_) h
    obtain ⟨a, ha, rfl, e2⟩ := mem_expand.mp hp
    obtain ⟨g0, g1, _⟩ := hmeta a ha
    cases hexp a ha e e2 with
    | str s => cases hr
    | items l hne hall =>
      exact slCheckResponse_good hne g0 g1 (fun a' ha' i r' hr' => ITree.check_good pin sub ht a' i r' (hall a' ha') hr') hr

theorem groupItems_sub_flat (g : List ℕ) (s : SubRes) : ∀ x ∈ groupItems g s, x ∈ s.flat := by
  intro x hx
  unfold groupItems at hx
  split at hx
  · exact hx
  · simp at hx
  · cases hx
  · exact hx

theorem ungroupify_mem {gmap : Option (List (List ℕ))} {nested : List SubRes} {r : IRes}
    (h : some r ∈ ungroupify gmap nested) : ∃ s ∈ nested, r ∈ s.flat := by
  unfold ungroupify at h
  cases gmap with
  | none =>
    obtain ⟨s, hs, hr⟩ := List.mem_flatMap.mp h
    refine ⟨s, hs, ?_⟩
    cases s with
    | single x => cases List.mem_singleton.mp hr; exact List.mem_singleton_self _
    | multi l => cases List.mem_singleton.mp hr
  | some gs =>
    obtain ⟨i, -, hi⟩ := List.mem_map.mp h
    obtain ⟨w, hw, rfl⟩ := Option.map_eq_some_iff.mp hi
    obtain ⟨p, hp, hwp⟩ := List.mem_flatMap.mp (List.mem_reverse.mp (List.mem_of_find?_eq_some hw))
    exact ⟨p.2, (List.of_mem_zip hp).2, groupItems_sub_flat _ _ _ (List.of_mem_zip hwp).2⟩

theorem performCheck_entries {α : Type} {cfg : LCfg} {sub : ℕ → α → GInput → M SubRes} {answers : List α} {student : List String}
    {o : LOut} {P : IRes → Prop}
    (hsub : ∀ k, ∀ a ∈ answers, ∀ g r, sub k a g = .ok r → ∀ x ∈ r.flat, P x)
    (h : performCheck cfg sub answers student = .ok o) : ∀ e ∈ o.entries, ∀ r, e = some r → P r := by
  obtain ⟨-, il, rfl, hil⟩ := performCheck_ok h
  rintro e he r rfl
  obtain ⟨s, hs, hrs⟩ := ungroupify_mem he
  split at hil
  · obtain ⟨p, hp, hpr⟩ := (List.mapM_eq_ok_iff.mp hil).mem_right s hs
    exact hsub p.2 p.1.1 (List.of_mem_zip (List.mem_of_getElem? (List.mem_zipIdx_iff_getElem?.mp hp))).1 p.1.2 s hpr r hrs
  · obtain ⟨a, ha, g, -, hc⟩ := findOptimalOrder_mem hil s hs
    exact hsub 0 a ha g s hc r hrs

theorem listCheck_entries {α : Type} {cfg : LCfg} {sub : ℕ → α → GInput → M SubRes} {answers : List (List α)} {student : List String}
    {o : LOut} {pin : Bool}
    (hsub : ∀ k, ∀ al ∈ answers, ∀ a ∈ al, ∀ g r, sub k a g = .ok r → ∀ x ∈ r.flat, Good pin x)
    (h : listCheck cfg sub answers student = .ok o) : ∀ e ∈ o.entries, ∀ r, e = some r → Good pin r := by
  obtain ⟨al, hal, best, hpc, ⟨rfl, -⟩ | ⟨-, rfl⟩⟩ := listCheck_ok h
  · exact performCheck_entries (fun k a ha g r hr => hsub k al hal a ha g r hr) hpc
  · rintro e he r rfl
    obtain ⟨e0, -, he0⟩ := List.mem_map.mp he
    cases e0 <;> cases he0
    exact Good.zero rfl rfl

mutual
def LTree.TabsWF : LTree → Prop
  | .list _ subs => subsTabsWF subs
def STree.TabsWF : STree → Prop
  | .item t => t.TabsWF
  | .nested t => t.TabsWF
def subsTabsWF : List STree → Prop
  | [] => True
  | s :: rest => s.TabsWF ∧ subsTabsWF rest
end

/-- well-formed answers handed to a subgrader of a ListGrader -/
inductive AnyWF (pin : Bool) : UAny → Prop
  | item (l : List (Answer UExp)) : AnsWF pin l → AnyWF pin (.item l)
  | lists (ls : List (List UAny)) : (∀ l ∈ ls, ∀ a ∈ l, AnyWF pin a) → AnyWF pin (.lists ls)

theorem subsTabsWF_mem : ∀ {subs : List STree}, subsTabsWF subs → ∀ s ∈ subs, s.TabsWF
  | _ :: _, h, s, hs => by
    rcases List.mem_cons.mp hs with rfl | hs
    · exact h.1
    · exact subsTabsWF_mem h.2 s hs

/-- `LTree.rec` with the list motive `∀ s ∈ subs, Q s` -/
theorem LTree.induction {P : LTree → Prop} {Q : STree → Prop} (list : ∀ cfg subs, (∀ s ∈ subs, Q s) → P (.list cfg subs))
    (item : ∀ t, Q (.item t)) (nested : ∀ t, P t → Q (.nested t)) : (∀ t, P t) ∧ ∀ s, Q s :=
  have nil : ∀ s ∈ ([] : List STree), Q s := fun _ h => nomatch h
  have cons : ∀ (s : STree) (l : List STree), Q s → (∀ s ∈ l, Q s) → ∀ s' ∈ s :: l, Q s' := fun _ _ h ih => List.forall_mem_cons.mpr ⟨h, ih⟩
  ⟨LTree.rec (motive_1 := P) (motive_2 := Q) (motive_3 := fun l => ∀ s ∈ l, Q s) list item nested nil cons,
   STree.rec (motive_1 := P) (motive_2 := Q) (motive_3 := fun l => ∀ s ∈ l, Q s) list item nested nil cons⟩

theorem runAt_ok : ∀ {subs : List STree} {j : ℕ} {a : UAny} {g : GInput} {r : SubRes}, runAt subs j a g = .ok r →
    ∃ s, subs[j]? = some s ∧ s.run a g = .ok r
  | [], _, _, _, _, h => nomatch h
  | s :: _, 0, _, _, _, h => ⟨s, rfl, h⟩
  | _ :: rest, j + 1, _, _, _, h => runAt_ok (subs := rest) (j := j) h

theorem itemAsSub_ok {f : List (Answer UExp) → String → M IRes} {a : UAny} {g : GInput} {r : SubRes}
    (h : itemAsSub f a g = .ok r) : ∃ l s x, a = .item l ∧ g = .one s ∧ f l s = .ok x ∧ r = .single x := by
  unfold itemAsSub at h
  split at h
  · obtain ⟨x, hx, rfl⟩ := Except.map_eq_ok_iff.mp h
    exact ⟨_, _, x, rfl, rfl, hx, rfl⟩
  · cases h

theorem listAsSub_ok {f : List (List UAny) → List String → M LOut} {a : UAny} {g : GInput} {r : SubRes}
    (h : listAsSub f a g = .ok r) :
    ∃ ls l o, a = .lists ls ∧ g = .many l ∧ f ls l = .ok o ∧ r = .multi (o.entries.filterMap id) := by
  unfold listAsSub at h
  split at h
  · obtain ⟨o, ho, rfl⟩ := Except.map_eq_ok_iff.mp h
    exact ⟨_, _, o, rfl, rfl, ho, rfl⟩
  · cases h

theorem tree_good (pin : Bool) :
    (∀ t : LTree, t.TabsWF → ∀ (answers : List (List UAny)) (student : List String) (out : LOut),
      (∀ al ∈ answers, ∀ a ∈ al, AnyWF pin a) → t.check answers student = .ok out → ∀ e ∈ out.entries, ∀ r, e = some r → Good pin r) ∧
    (∀ s : STree, s.TabsWF → ∀ (a : UAny) (g : GInput) (r : SubRes),
      AnyWF pin a → s.run a g = .ok r → ∀ x ∈ r.flat, Good pin x) := by
  refine LTree.induction (fun cfg subs ih ht answers student out hans h => ?_) (fun t ht a g r ha h => ?_)
    (fun t ih ht a g r ha h => ?_)
  · refine listCheck_entries (fun k al hal a ha g r hr => ?_) h
    obtain ⟨s, hs, hr⟩ := runAt_ok hr
    exact ih s (List.mem_of_getElem? hs) (subsTabsWF_mem ht s (List.mem_of_getElem? hs)) a g r (hans al hal a ha) hr
  · obtain ⟨l, s, x, rfl, rfl, hx, rfl⟩ := itemAsSub_ok h
    cases ha with
    | item _ hl => exact fun y hy => List.mem_singleton.mp hy ▸ ITree.check_good pin t ht l s x hl hx
  · obtain ⟨ls, l, o, rfl, rfl, ho, rfl⟩ := listAsSub_ok h
    cases ha with
    | lists _ hl =>
      intro x hx
      obtain ⟨e, he, rfl⟩ := List.mem_filterMap.mp hx
      exact ih ht ls l o hl ho _ he x rfl

theorem LTree.check_good (pin : Bool) : ∀ (t : LTree), t.TabsWF → ∀ (answers : List (List UAny)) (student : List String) (out : LOut),
    (∀ al ∈ answers, ∀ a ∈ al, AnyWF pin a) → t.check answers student = .ok out → ∀ e ∈ out.entries, ∀ r, e = some r → Good pin r :=
  (tree_good pin).1

theorem STree.run_good (pin : Bool) : ∀ (s : STree), s.TabsWF → ∀ (a : UAny) (g : GInput) (r : SubRes),
    AnyWF pin a → s.run a g = .ok r → ∀ x ∈ r.flat, Good pin x :=
  (tree_good pin).2

theorem runAt_good (pin : Bool) : ∀ (subs : List STree), subsTabsWF subs → ∀ (k : ℕ) (a : UAny) (g : GInput) (r : SubRes),
    AnyWF pin a → runAt subs k a g = .ok r → ∀ x ∈ r.flat, Good pin x := by
  intro subs ht k a g r ha h
  obtain ⟨s, hs, hr⟩ := runAt_ok h
  exact STree.run_good pin s (subsTabsWF_mem ht s (List.mem_of_getElem? hs)) a g r ha hr

end Gr
