import Mitx.Model.Comparers
import Mitx.Lemmas.Tol
import Mathlib.Algebra.Order.Round
import Mathlib.Data.Rat.Floor
import Mathlib.Tactic.Ring
/-! What the definitions of the comparer model `Cm` return: Python's `%` through `Int.fract` and the wrapped remainder through
`round`, linearity of `dot` / `mulVec`, squared norms that vanish, the accept conditions of the vector comparers, the entry count
of `matrixEntry`, Python's `max` (`maxRes`). -/
namespace Cm
open Tl

theorem pymod_eq_mul_fract (x m : Rat) (hm : m ≠ 0) : pymod x m = m * Int.fract (x / m) := by
  rw [pymod, Int.fract, mul_sub, mul_div_cancel₀ x hm]; rfl

theorem abs_sub_mul_eq_mul_abs (x k : Rat) {m : Rat} (hm : 0 < m) : |x - k * m| = m * |x / m - k| := by
  rw [← abs_of_pos hm, ← abs_mul, abs_of_pos hm, mul_sub, mul_div_cancel₀ x hm.ne', mul_comm]

/-- the remainder, wrapped to the nearer side, is the distance from `x` to the multiple of `m` that `round` picks -/
theorem pymod_wrap (x m : Rat) (hm : 0 < m) :
    (if m - pymod x m < pymod x m then m - pymod x m else pymod x m) = |x - round (x / m) * m| := by
  -- `|y − round y| = min (fract y) (1 − fract y)` (`abs_sub_round_eq_min`) at `y = x / m`, times `m`
  rw [abs_sub_mul_eq_mul_abs x _ hm, abs_sub_round_eq_min, mul_min_of_nonneg _ _ hm.le, mul_sub, mul_one,
    ← pymod_eq_mul_fract x m hm.ne', min_comm]
  split_ifs with h
  exacts [(min_eq_left h.le).symm, (min_eq_right (not_lt.mp h)).symm]

theorem sqnorm_subL_eq_zero : ∀ a b : List C, a.length = b.length → (sqnorm (subL a b) = 0 ↔ a = b)
  | [], [], _ => by simp [subL, sqnorm]
  | x :: xs, y :: ys, h => by
    rw [subL, sqnorm_cons, add_eq_zero_iff_of_nonneg (C.sq_nonneg _) (sqnorm_nonneg _), C.sq_eq_zero, C.sub_eq_zero,
      sqnorm_subL_eq_zero xs ys (Nat.succ.inj h), List.cons.injEq]

theorem dot_smul (k : C) : ∀ (row v : List C), dot row (smul k v) = C.mul k (dot row v)
  | [], _ => by simp [dot, C.mul, C.zero]
  | _ :: _, [] => by simp [dot, smul, C.mul, C.zero]
  | a :: as, b :: bs => by
    rw [smul, List.map_cons, dot, ← smul, dot_smul k as bs, dot]
    simp only [C.mul, C.add, C.mk.injEq]
    constructor <;> ring

theorem smul_smul_comm (a b : C) (v : List C) : smul a (smul b v) = smul b (smul a v) := by
  simp only [smul, List.map_map]
  apply List.map_congr_left
  intro z _
  simp only [Function.comp, C.mul, C.mk.injEq]
  constructor <;> ring

theorem le_of_better {a b : Rat × String} (h : better a b = true) : a.1 ≤ b.1 := by
  simp only [better, Bool.or_eq_true, decide_eq_true_eq, Bool.and_eq_true, beq_iff_eq] at h
  exact h.elim le_of_lt fun h => le_of_eq h.1

theorem le_of_not_better {a b : Rat × String} (h : ¬ better a b = true) : b.1 ≤ a.1 := by
  simp only [better, Bool.or_eq_true, decide_eq_true_eq, not_or, not_lt] at h
  exact h.1

theorem maxRes_eq_none : ∀ {l : List (Rat × String)}, maxRes l = none → l = []
  | [], _ => rfl
  | r :: rs, h => by
    rw [maxRes] at h
    split at h
    · cases h
    · split at h <;> cases h

theorem nearlyZero_mono {e e' r : Rat} {tol : Tolerance} (h : e ≤ e') (h' : nearlyZero e' r tol = true) : nearlyZero e r tol = true := by
  cases tol <;> simp only [nearlyZero, Bool.and_eq_true, decide_eq_true_eq] at h' ⊢ <;> exact ⟨h'.1, le_trans h h'.2⟩

end Cm

namespace C16
open Cm Tl

theorem pymod_spec (x m : Rat) (hm : 0 < m) : 0 ≤ pymod x m ∧ pymod x m < m ∧ x = m * ((x / m).floor : Rat) + pymod x m := by
  rw [pymod_eq_mul_fract x m hm.ne', ← mul_add]
  exact ⟨mul_nonneg hm.le (Int.fract_nonneg _), mul_lt_of_lt_one_right hm (Int.fract_lt_one _),
    ((congrArg (m * ·) (Int.floor_add_fract (x / m))).trans (mul_div_cancel₀ x hm.ne')).symm⟩

/-- no multiple of `m` is nearer to `x` than the one `round` picks -/
theorem nearest_multiple (x m t : Rat) (hm : 0 < m) : |x - round (x / m) * m| ≤ t ↔ ∃ k : Int, |x - (k : Rat) * m| ≤ t := by
  refine ⟨fun h => ⟨_, h⟩, fun ⟨k, h⟩ => le_trans ?_ h⟩
  rw [abs_sub_mul_eq_mul_abs x _ hm, abs_sub_mul_eq_mul_abs x _ hm]
  exact mul_le_mul_of_nonneg_left (round_le (x / m) k) hm.le

theorem sqnorm_eq_zero (l : List C) : sqnorm l = 0 ↔ ∀ z ∈ l, z = ⟨0, 0⟩ := by
  induction l with
  | nil => simp [sqnorm]
  | cons a as ih =>
    rw [sqnorm_cons, List.forall_mem_cons, ← ih, ← C.sq_eq_zero]
    exact add_eq_zero_iff_of_nonneg a.sq_nonneg (sqnorm_nonneg as)

theorem eigenvector_accept_iff (m : List (List C)) (ev : C) (v : List C) (tol : Tolerance) :
    eigenvector m ev v tol = .accept ↔ normNearlyZero (sqnorm v) tol = false ∧
      leTol (sqnorm (subL (mulVec m v) (smul ev v))) (sqnorm (mulVec m v)) tol = true := by
  unfold eigenvector
  split_ifs <;> simp [*]

theorem mulVec_smul (m : List (List C)) (k : C) (v : List C) : mulVec m (smul k v) = smul k (mulVec m v) := by
  simp only [mulVec, dot_smul]
  simp [smul]

theorem magClose_iff_le {p q t2 u : Rat} (hu : 0 ≤ u) (h : 4 * p * q = u * u) : magClose p q t2 = true ↔ p + q - t2 ≤ u := by
  unfold magClose
  split_ifs with hs
  · exact iff_of_true rfl (hs.trans hu)
  · rw [decide_eq_true_eq, h, sq_le_sq_iff_abs hu, abs_of_pos (not_le.mp hs)]

theorem vectorSpan_iff (v : List C) (res2 : Rat) (tol : Tolerance) :
    vectorSpan v res2 tol = .accept ↔ normNearlyZero (sqnorm v) tol = false ∧ nearlyZero res2 (sqnorm v) tol = true := by
  unfold vectorSpan
  split_ifs <;> simp [*]

/-- number of entries that are correct at every sample -/
def good (samples : List (List C × List C)) (tol : Tolerance) (n : Nat) : Nat := ((entrySummary samples tol n).filter id).length

theorem good_eq_n_iff (samples : List (List C × List C)) (tol : Tolerance) (n : Nat) :
    good samples tol n = n ↔ ∀ b ∈ entrySummary samples tol n, b = true := by
  have hlen : (entrySummary samples tol n).length = n := by simp [entrySummary]
  simpa [good, hlen] using List.length_filter_eq_length_iff (l := entrySummary samples tol n) (p := id)

theorem good_eq_zero_iff (samples : List (List C × List C)) (tol : Tolerance) (n : Nat) :
    good samples tol n = 0 ↔ ∀ b ∈ entrySummary samples tol n, b = false := by
  simp [good, List.filter_eq_nil_iff]

/-- **Full credit iff all entries match, zero iff none does, otherwise the flat credit or the fraction of matching entries** -/
theorem matrixEntry_spec (samples : List (List C × List C)) (tol : Tolerance) (n : Nat) (pc : Partial) :
    matrixEntry samples tol n pc =
      if good samples tol n = n then .full
      else if good samples tol n = 0 then .zero
      else .partialCredit (match pc with
        | .flat q => q
        | .proportional => (good samples tol n : Rat) / n) := by
  cases pc <;> rfl

theorem maxRes_spec : ∀ (l : List (Rat × String)) (m : Rat × String), maxRes l = some m → m ∈ l ∧ ∀ r ∈ l, r.1 ≤ m.1 := by
  intro l
  induction l with
  | nil => intro m h; cases h
  | cons r rs ih =>
    intro m h
    rw [maxRes] at h
    cases hr : maxRes rs with
    | none =>
      rw [hr] at h; cases h
      rw [maxRes_eq_none hr]; simp
    | some m' =>
      obtain ⟨hm, hall⟩ := ih m' hr
      rw [hr] at h
      simp only at h
      split_ifs at h with hb <;> cases h
      · exact ⟨List.mem_cons_of_mem _ hm, List.forall_mem_cons.mpr ⟨le_of_better hb, hall⟩⟩
      · exact ⟨List.mem_cons_self, List.forall_mem_cons.mpr ⟨le_rfl, fun x hx => (hall x hx).trans (le_of_not_better hb)⟩⟩

theorem zeroCompatible_iff (m : Mode) : zeroCompatible m = true ↔ m = .equals ∨ m = .offset := by
  cases m <;> decide

end C16
