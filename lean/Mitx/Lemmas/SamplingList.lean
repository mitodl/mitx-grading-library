import Mitx.Model.Sampling
import Mathlib.Tactic.Ring
import Mathlib.Algebra.BigOperators.Group.List.Basic
/-! The entry-list model of `SquareMatrices.apply_symmetry`: reading an entry of a matrix built entry by entry, and what the
traceless step does to the trace. -/
namespace Sp
open Tl (C)

theorem flatMap_rows_getElem? (n : ℕ) (f : ℕ → ℕ → C) : ∀ (l : List ℕ) (k j : ℕ), j < n →
    (l.flatMap (fun i => (List.range n).map (fun j => f i j)))[k * n + j]? = l[k]?.map (fun i => f i j)
  | [], k, j, _ => rfl
  | i :: rest, 0, j, hj => by
    rw [List.flatMap_cons, Nat.zero_mul, Nat.zero_add, List.getElem?_append_left (by simpa using hj), List.getElem?_map,
      List.getElem?_range hj]
    rfl
  | i :: rest, k + 1, j, hj => by
    rw [List.flatMap_cons, List.getElem?_append_right (by rw [List.length_map, List.length_range, Nat.succ_mul]; omega),
      List.length_map, List.length_range, Nat.succ_mul, Nat.add_right_comm, Nat.add_sub_cancel]
    exact flatMap_rows_getElem? n f rest k j hj

theorem entry_build (n : ℕ) (f : ℕ → ℕ → C) (i j : ℕ) (hi : i < n) (hj : j < n) : entry n (build n f) i j = f i j := by
  unfold entry build
  rw [List.getD_eq_getElem?_getD, flatMap_rows_getElem? n f (List.range n) i j hj]
  simp [hi]

def cneg (a : C) : C := ⟨-a.re, -a.im⟩

theorem foldl_cadd (g : ℕ → C) (l : List ℕ) (z : C) :
    l.foldl (fun acc i => cadd acc (g i)) z = ⟨z.re + (l.map fun i => (g i).re).sum, z.im + (l.map fun i => (g i).im).sum⟩ := by
  induction l generalizing z with
  | nil => simp
  | cons x xs ih =>
    rw [List.foldl_cons, ih, List.map_cons, List.map_cons, List.sum_cons, List.sum_cons, cadd, add_assoc, add_assoc]

theorem sum_sub_const (l : List ℕ) (f : ℕ → ℚ) (c : ℚ) : (l.map (fun i => f i - c)).sum = (l.map f).sum - l.length * c := by
  induction l with
  | nil => simp
  | cons x xs ih => simp only [List.map_cons, List.sum_cons, List.length_cons, ih]; push_cast; ring

theorem trace_build_sub (n : ℕ) (w : List C) (t : C) :
    trace n (build n fun i j => if i = j then csub (entry n w i j) t else entry n w i j) =
      ⟨(trace n w).re - n * t.re, (trace n w).im - n * t.im⟩ := by
  have hd : ∀ i ∈ List.range n, entry n (build n fun i j => if i = j then csub (entry n w i j) t else entry n w i j) i i
      = csub (entry n w i i) t := fun i hi => by
    rw [entry_build n _ i i (List.mem_range.mp hi) (List.mem_range.mp hi), if_pos rfl]
  unfold trace
  rw [foldl_cadd, foldl_cadd, List.map_congr_left fun i hi => congrArg C.re (hd i hi),
    List.map_congr_left fun i hi => congrArg C.im (hd i hi)]
  simp only [csub, sum_sub_const, List.length_range, zero_add]

end Sp
