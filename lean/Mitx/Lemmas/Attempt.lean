import Mitx.Model.Attempt
import Mathlib.Tactic.Linarith
import Mathlib.Tactic.NormNum
import Mathlib.Algebra.Order.Floor.Ring
import Mathlib.Data.Rat.Floor
/-! `round4` is monotone and fixes 4-decimal values; each built-in schedule is a monotone function of an unrounded one; what
`scaleRes` does to a result. -/
namespace At

theorem floor_eq (y : ℚ) : y.floor = ⌊y⌋ := rfl

theorem rnd_def (y : ℚ) : rnd y =
    if y - ⌊y⌋ < 1/2 then ⌊y⌋ else if y - ⌊y⌋ > 1/2 then ⌊y⌋ + 1 else (if ⌊y⌋ % 2 = 0 then ⌊y⌋ else ⌊y⌋ + 1) := by
  unfold rnd; simp only [floor_eq]; rfl

theorem rnd_cases (y : ℚ) : (rnd y = ⌊y⌋ ∧ y - ⌊y⌋ ≤ 1/2) ∨ (rnd y = ⌊y⌋ + 1 ∧ 1/2 ≤ y - ⌊y⌋) := by
  rw [rnd_def]
  split_ifs with ha hb
  · exact .inl ⟨rfl, ha.le⟩
  · exact .inr ⟨rfl, hb.le⟩
  · exact .inl ⟨rfl, not_lt.mp hb⟩
  · exact .inr ⟨rfl, not_lt.mp ha⟩

theorem rnd_near (y : ℚ) : (rnd y : ℚ) - 1/2 ≤ y ∧ y ≤ rnd y + 1/2 := by
  rcases rnd_cases y with ⟨e, h⟩ | ⟨e, h⟩
  · rw [e]; exact ⟨le_trans (sub_le_self _ one_half_pos.le) (Int.floor_le y), sub_le_iff_le_add'.mp h⟩
  · rw [e, Int.cast_add, Int.cast_one, add_sub_assoc, sub_half]
    exact ⟨le_sub_iff_add_le'.mp h, (Int.lt_floor_add_one y).le.trans (le_add_of_nonneg_right one_half_pos.le)⟩

theorem rnd_mono {x y : ℚ} (h : x ≤ y) : rnd x ≤ rnd y := by
  by_contra hlt
  -- an integer step apart: `y ≤ rnd y + 1/2 ≤ rnd x − 1/2 ≤ x`, so `x = y`
  have hstep : ((rnd y + 1 : ℤ) : ℚ) ≤ rnd x := Int.cast_le.mpr (Int.add_one_le_of_lt (not_le.mp hlt))
  rw [Int.cast_add, Int.cast_one] at hstep
  have hmid : (rnd y : ℚ) + 1/2 ≤ rnd x - 1/2 := le_sub_iff_add_le.mpr (by rwa [add_assoc, add_halves])
  exact hlt (le_antisymm h ((rnd_near y).2.trans (hmid.trans (rnd_near x).1)) ▸ le_refl _)

theorem round4_mono {x y : ℚ} (h : x ≤ y) : round4 x ≤ round4 y :=
  div_le_div_of_nonneg_right (Int.cast_le.mpr (rnd_mono (mul_le_mul_of_nonneg_right h (by norm_num)))) (by norm_num)

theorem rnd_int (k : ℤ) : rnd (k : ℚ) = k := by
  rw [rnd_def]; simp

theorem round4_fix (k : ℤ) : round4 ((k : ℚ) / 10000) = (k : ℚ) / 10000 := by
  unfold round4
  rw [div_mul_cancel₀ _ (by norm_num), rnd_int]

theorem round4_one : round4 1 = 1 := by simpa using round4_fix 10000
theorem round4_zero : round4 0 = 0 := by simpa using round4_fix 0

/-- every value of `round4` is a 4-decimal number, hence a fixed point -/
theorem round4_idem (x : ℚ) : round4 (round4 x) = round4 x := by
  unfold round4; exact round4_fix _

theorem round4_unit {x : ℚ} (h0 : 0 ≤ x) (h1 : x ≤ 1) : 0 ≤ round4 x ∧ round4 x ≤ 1 :=
  ⟨round4_zero ▸ round4_mono h0, round4_one ▸ round4_mono h1⟩

theorem rmax_eq_max (a b : ℚ) : rmax a b = max a b := by rw [rmax, max_def]
theorem le_rmax_right (a b : ℚ) : b ≤ rmax a b := rmax_eq_max a b ▸ le_max_right a b

theorem geometricCredit_eq (f : ℚ) (a : ℤ) : geometricCredit f a = round4 (f ^ (a - 1).toNat) := by
  unfold geometricCredit
  split_ifs with h
  · subst h; simp [round4_one]
  · rfl

theorem reciprocalCredit_eq (a : ℤ) : reciprocalCredit a = round4 (1 / (a : ℚ)) := by
  unfold reciprocalCredit
  split_ifs with h
  · subst h; simp [round4_one]
  · rfl

/-- `LinearCredit`'s interpolation parameter, clipped to [0, 1] -/
def progress (after steps : ℕ) (a : ℤ) : ℚ := ((max 0 (min (a - after) steps) : ℤ) : ℚ) / steps

theorem progress_nonneg (after steps : ℕ) (a : ℤ) : 0 ≤ progress after steps a :=
  div_nonneg (Int.cast_nonneg (le_max_left _ _)) (Nat.cast_nonneg _)

theorem progress_mono {after steps : ℕ} {a b : ℤ} (h : a ≤ b) : progress after steps a ≤ progress after steps b :=
  div_le_div_of_nonneg_right
    (Int.cast_le.mpr (max_le_max_left 0 (min_le_min_right _ (sub_le_sub_right h _)))) (Nat.cast_nonneg _)

theorem linearCredit_eq {after steps : ℕ} {minc : ℚ} (ha : 1 ≤ after) (hs : 1 ≤ steps) (h1 : minc ≤ 1) (a : ℤ) :
    linearCredit after steps minc a = max (round4 (1 + (minc - 1) * progress after steps a)) minc := by
  have hsp : (steps : ℚ) ≠ 0 := Nat.cast_ne_zero.mpr (by omega)
  unfold linearCredit progress
  by_cases h : a - after ≤ 0
  · rw [max_eq_left ((min_le_left _ _).trans h), if_pos h, ite_self, Int.cast_zero, zero_div, mul_zero, add_zero, round4_one,
      max_eq_left h1]
  · rw [if_neg (by omega : a ≠ 1), if_neg h]
    by_cases h2 : a - after ≥ steps
    · rw [if_pos h2, min_eq_right h2, max_eq_right (Int.natCast_nonneg steps), Int.cast_natCast, div_self hsp, mul_one,
        add_sub_cancel, rmax_eq_max]
    · rw [if_neg h2, min_eq_left (not_le.mp h2).le, max_eq_right (not_le.mp h).le, mul_div_assoc, rmax_eq_max]

theorem lerp_anti {m u v : ℚ} (hm : m ≤ 1) (h : u ≤ v) : 1 + (m - 1) * v ≤ 1 + (m - 1) * u :=
  add_le_add_right (mul_le_mul_of_nonpos_left h (sub_nonpos.mpr hm)) 1

theorem scaleRes_spec (c : ℚ) (r : Res) :
    (r.grade > 0 → (scaleRes c r).grade = r.grade * c ∧ (scaleRes c r).ok = gradeToOk (r.grade * c)) ∧
    (¬ r.grade > 0 → (scaleRes c r).grade = r.grade ∧ (scaleRes c r).ok = r.ok) := by
  unfold scaleRes
  split_ifs with h
  · exact ⟨fun _ => ⟨rfl, rfl⟩, fun hn => absurd h hn⟩
  · exact ⟨fun hp => absurd hp h, fun _ => ⟨rfl, rfl⟩⟩

theorem scaleRes_msg (c : ℚ) (r : Res) : (scaleRes c r).msg = r.msg := by unfold scaleRes; split <;> rfl

theorem scaleRes_range {c : ℚ} {r : Res} (hc0 : 0 ≤ c) (hc1 : c ≤ 1) (hg0 : 0 ≤ r.grade) (hg1 : r.grade ≤ 1) :
    0 ≤ (scaleRes c r).grade ∧ (scaleRes c r).grade ≤ 1 := by
  unfold scaleRes
  split_ifs
  · exact ⟨mul_nonneg hg0 hc0, mul_le_one₀ hg1 hc0 hc1⟩
  · exact ⟨hg0, hg1⟩

end At
