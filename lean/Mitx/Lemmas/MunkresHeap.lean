import Mitx.Model.MunkresHeap
/-! The row-heap model `MkH`: what `computeH` returns, and that a solve in copy mode only allocates. -/
namespace MkH
open Mk

theorem computeH_eq (mode : PadMode) (h : Heap) (caller : List Nat) :
    computeH mode h caller = (finalState (readMatrix h caller)).map (fun s =>
      (writeBack h (workId mode h caller s.n) s.n s.C, resultOf (readMatrix h caller) s)) := by
  unfold computeH
  simp only [Option.bind_eq_bind, Option.pure_def]
  cases finalState (readMatrix h caller) <;> rfl

theorem rowOf_copy_eq_none (h : Heap) (n id : Nat) (hid : id < h.next) : rowOf (fun i => h.next + i) n id = none := by
  unfold rowOf
  rw [List.find?_eq_none]
  intro i _ hi
  simp at hi; omega

/-- a solve in copy mode only allocates; the relation is reflexive and transitive, which is all a history needs -/
theorem copy_extends {h h' : Heap} {caller : List Nat} {out : List (Nat × Nat)}
    (hc : computeH .copy h caller = some (h', out)) :
    h.next ≤ h'.next ∧ ∀ id, id < h.next → h'.row id = h.row id ∧ h'.len id = h.len id := by
  rw [computeH_eq] at hc
  obtain ⟨s, -, hs⟩ := Option.map_eq_some_iff.mp hc
  obtain ⟨rfl, -⟩ := Prod.mk.inj hs
  refine ⟨Nat.le_add_right .., fun id hid => ?_⟩
  have hnone : rowOf (workId .copy h caller s.n) s.n id = none := rowOf_copy_eq_none h s.n id hid
  exact ⟨funext fun j => by simp only [writeBack, hnone], by simp only [writeBack, hnone]⟩

end MkH
