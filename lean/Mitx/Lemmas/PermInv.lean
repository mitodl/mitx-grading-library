import Mitx.Lemmas.Optimal
import Mathlib.Algebra.BigOperators.Fin
import Mathlib.Logic.Equiv.Fintype
/-! Permuting the inputs does not change the total credit of the optimal assignment found by `find_optimal_order`
    (hence not the unordered SingleListGrader grade). -/
namespace Gr

/-- transport an assignment along `π` -/
theorem sum_le_of_rows_permuted {ρ : Type} {grade : ρ → ℚ} {n : ℕ} {Ra Rb : Fin n → Fin n → ρ} (π : Equiv.Perm (Fin n))
    (hR : ∀ i j, Rb i j = Ra (π i) j) (τa : Equiv.Perm (Fin n)) {τb : Equiv.Perm (Fin n)}
    (hopt : ∀ σ : Equiv.Perm (Fin n), ∑ i, grade (Rb i (σ i)) ≤ ∑ i, grade (Rb i (τb i))) :
    ∑ k, grade (Ra k (τa k)) ≤ ∑ i, grade (Rb i (τb i)) :=
  calc ∑ k, grade (Ra k (τa k)) = ∑ i, grade (Ra (π i) (τa (π i))) :=
        (Equiv.sum_comp π fun k => grade (Ra k (τa k))).symm
    _ = ∑ i, grade (Rb i ((π.trans τa) i)) := by simp only [hR, Equiv.trans_apply]
    _ ≤ ∑ i, grade (Rb i (τb i)) := hopt _

/-- the optimal total is invariant under permuting the inputs -/
theorem findOptimalOrder_perm_invariant {α β ρ : Type} {check : α → β → M ρ} {grade : ρ → ℚ} {answers : List α}
    {inputs₁ inputs₂ : List β} {n : ℕ} (hn : 0 < n) (ha : answers.length = n) (h1 : inputs₁.length = n) (h2 : inputs₂.length = n)
    (π : Equiv.Perm (Fin n))
    (hπ : ∀ i : Fin n, inputs₂[i.1]'(by rw [h2]; exact i.2) = inputs₁[(π i).1]'(by rw [h1]; exact (π i).2))
    {out₁ out₂ : List ρ}
    (r1 : findOptimalOrder check grade answers inputs₁ = .ok out₁)
    (r2 : findOptimalOrder check grade answers inputs₂ = .ok out₂) :
    (out₁.map grade).sum = (out₂.map grade).sum ∧ out₁.length = out₂.length := by
  obtain ⟨R₁, τ₁, hR₁, ho₁, hopt₁⟩ := findOptimalOrder_optimal (grade := grade) hn ha h1 r1
  obtain ⟨R₂, τ₂, hR₂, ho₂, hopt₂⟩ := findOptimalOrder_optimal (grade := grade) hn ha h2 r2
  have hR : ∀ i j, R₂ i j = R₁ (π i) j := by
    intro i j
    have a := hR₂ i j
    have b := hR₁ (π i) j
    rw [hπ i] at a
    rw [a] at b
    exact (Except.ok.inj b)
  have s1 : (out₁.map grade).sum = ∑ i, grade (R₁ i (τ₁ i)) := by
    rw [ho₁, List.map_ofFn, List.sum_ofFn]; rfl
  have s2 : (out₂.map grade).sum = ∑ i, grade (R₂ i (τ₂ i)) := by
    rw [ho₂, List.map_ofFn, List.sum_ofFn]; rfl
  refine ⟨?_, by rw [ho₁, ho₂]; simp⟩
  rw [s1, s2]
  exact le_antisymm (sum_le_of_rows_permuted π hR τ₁ hopt₂)
    (sum_le_of_rows_permuted π.symm (fun i j => by rw [hR, Equiv.apply_symm_apply]) τ₂ hopt₁)

/-- extend a permutation of the first `k` positions by the identity on the padding positions -/
def extendPerm {k n : ℕ} (hkn : k ≤ n) (π : Equiv.Perm (Fin k)) : Equiv.Perm (Fin n) :=
  π.viaFintypeEmbedding (Fin.castLEEmb hkn)

theorem padTo_getElem {α : Type} (n : ℕ) (l : List α) (i : ℕ) (hi : i < (padTo n l).length) :
    (padTo n l)[i] = if h : i < l.length then some l[i] else none := by
  simp only [padTo, List.getElem_append, List.length_map, List.getElem_map, List.getElem_replicate]

theorem padTo_length' {α : Type} (n : ℕ) (l : List α) (h : l.length ≤ n) : (padTo n l).length = n := by
  simp only [padTo, List.length_append, List.length_map, List.length_replicate]
  omega

/-- padding commutes with permuting the (unpadded) items -/
theorem padTo_perm {α : Type} {k n : ℕ} (hkn : k ≤ n) {l₁ l₂ : List α} (h1 : l₁.length = k) (h2 : l₂.length = k)
    (π : Equiv.Perm (Fin k)) (hπ : ∀ i : Fin k, l₂[i.1]'(by rw [h2]; exact i.2) = l₁[(π i).1]'(by rw [h1]; exact (π i).2))
    (i : Fin n) :
    (padTo n l₂)[i.1]'(by rw [padTo_length' n l₂ (by omega)]; exact i.2) =
      (padTo n l₁)[(extendPerm hkn π i).1]'(by rw [padTo_length' n l₁ (by omega)]; exact (extendPerm hkn π i).2) := by
  rw [padTo_getElem, padTo_getElem]
  by_cases h : i.1 < k
  · have e : extendPerm hkn π i = Fin.castLE hkn (π ⟨i.1, h⟩) :=
      Equiv.Perm.viaFintypeEmbedding_apply_image π (Fin.castLEEmb hkn) ⟨i.1, h⟩
    rw [dif_pos (h2 ▸ h), dif_pos (by rw [e, h1]; exact (π ⟨i.1, h⟩).2)]
    simp only [e]
    exact congrArg some (hπ ⟨i.1, h⟩)
  · have e : extendPerm hkn π i = i :=
      Equiv.Perm.viaFintypeEmbedding_apply_notMem_range π (Fin.castLEEmb hkn) fun ⟨a, ha⟩ => h (ha ▸ a.2)
    rw [dif_neg (h2 ▸ h), dif_neg (by rw [e, h1]; exact h)]

end Gr
