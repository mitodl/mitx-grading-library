import Mitx.Model.Answers
import Mitx.Lemmas.Tree
/-! What the validation of `answers` guarantees (the statements of C20's answers theorems). -/
namespace Av
open At (Ok gradeToOk)

theorem schemaAnswer_spec {ε δ : Type} {vExp : ε → Option δ} {e : Option (Exp ε)} {g : Option Rat} {m : Option String}
    {o : Option OkIn} {u : Bool} {c : Canon δ} (h : schemaAnswer vExp e g m o u = some c) :
    u = false ∧ (∃ x, e = some x ∧ validateExpectTuple vExp x = some c.expect) ∧ c.grade = g.getD 1 ∧
      0 ≤ c.grade ∧ c.grade ≤ 1 ∧ c.msg = m.getD "" ∧
      c.ok = (if o.getD .computed = .computed ∨ c.grade ≠ 1 then gradeToOk c.grade else okOfIn (o.getD .computed) c.grade) := by
  unfold schemaAnswer at h
  cases u with
  | true => cases h
  | false =>
    cases e with
    | none => cases h
    | some x =>
      cases hes : validateExpectTuple vExp x with
      | none => simp only [hes] at h; cases h
      | some es =>
        simp only [hes] at h
        by_cases hg : g.getD 1 < 0 ∨ 1 < g.getD 1
        · rw [if_pos hg] at h; cases h
        · rw [if_neg hg] at h; cases h
          rw [not_or, not_lt, not_lt] at hg
          exact ⟨rfl, ⟨x, rfl, hes⟩, rfl, hg.1, hg.2, rfl, rfl⟩

theorem validate_canonical {ε δ : Type} {vExp : ε → Option δ} {d : Option (List δ)} {r : Raw ε} {c : Canon δ}
    (h : validateSingle vExp d r = some c) : 0 ≤ c.grade ∧ c.grade ≤ 1 ∧ (c.ok ≠ gradeToOk c.grade → c.grade = 1) := by
  have key : ∀ {e g m o u}, schemaAnswer vExp e g m o u = some c → 0 ≤ c.grade ∧ c.grade ≤ 1 ∧ (c.ok ≠ gradeToOk c.grade → c.grade = 1) := by
    intro e g m o u hs
    obtain ⟨_, _, _, h0, h1, _, hok⟩ := schemaAnswer_spec hs
    refine ⟨h0, h1, fun hne => ?_⟩
    by_contra hg1
    rw [hok, if_pos (Or.inr hg1)] at hne
    exact hne rfl
  cases r with
  | bare x => simp only [validateSingle] at h; exact key h
  | dict e g m o u =>
    simp only [validateSingle] at h
    split at h
    · next c' hc' => simp only [Option.some.injEq] at h; subst h; exact key hc'
    · cases d with
      | none => simp at h
      | some es =>
        simp only [Option.map_some, Option.some.injEq] at h; subst h
        exact ⟨by norm_num, by norm_num, fun _ => rfl⟩

theorem bare_eq_dict {ε δ : Type} (vExp : ε → Option δ) (d : Option (List δ)) (x : Exp ε) :
    validateSingle vExp d (.bare x) = schemaAnswer vExp (some x) none none none false := by
  simp only [validateSingle, schemaAnswer]
  cases validateExpectTuple vExp x with
  | none => rfl
  | some es => simp [okOfIn, gradeToOk]

theorem revalidate_canonical {δ : Type} (v : δ → Option δ) (d : Option (List δ)) (c : Canon δ)
    (hexp : ∀ e ∈ c.expect, v e = some e) (h0 : 0 ≤ c.grade) (h1 : c.grade ≤ 1) (hok : c.ok ≠ gradeToOk c.grade → c.grade = 1) :
    validateSingle v d c.toRaw = some c := by
  simp only [Canon.toRaw, validateSingle, schemaAnswer, validateExpectTuple, List.mapM_eq_some_iff.mpr (List.forall₂_same.mpr hexp), Bool.false_eq_true,
    ↓reduceIte, Option.getD_some]
  have hr : ¬ (c.grade < 0 ∨ 1 < c.grade) := not_or.mpr ⟨not_lt.mpr h0, not_lt.mpr h1⟩
  simp only [hr, ↓reduceIte]
  congr 1
  cases c with
  | mk ex g m ok =>
    simp only at hok ⊢
    congr 1
    by_cases hg : g = 1
    · subst hg; cases ok <;> simp [okOfIn]
    · have : ok = gradeToOk g := by by_contra hne; exact hg (hok hne)
      subst this
      cases h : gradeToOk g <;> simp [hg]

/-- a validated answer as the grader tree sees it (text expect entries) -/
def toAnswer (c : Canon String) : Gr.Answer Gr.UExp := ⟨c.expect.map Gr.UExp.str, ⟨c.grade, c.msg, c.ok⟩⟩

end Av
