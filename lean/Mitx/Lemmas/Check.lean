import Mitx.Lemmas.PyMax
import Mitx.Lemmas.MapM
import Mitx.Model.Interval
/-! Each monadic function of the grading core is inverted once: from `f … = .ok out` to the intermediate values it computed
and the checks it passed. The properties argue about returning calls from these facts; only statements about a raised error
run the function forwards. -/
namespace Gr

section Item
variable {ε : Type} {cr : AnsMeta → ε → String → M IRes} {w : String}

/-- what a returning `check` did, in terms of `check_response` alone: the result `c` of some pair was chosen; no pair earns more,
    and none that earns as much has a longer message -/
theorem itemCheck_ok {answers : List (Answer ε)} {inp : String} {out : IRes} (h : itemCheck cr w answers inp = .ok out) :
    ∃ p ∈ expand answers, ∃ c, cr p.1 p.2 inp = .ok c ∧
      (∀ q ∈ expand answers, ∀ r, cr q.1 q.2 inp = .ok r →
        r.grade ≤ c.grade ∧ (r.grade = c.grade → r.msg.length ≤ c.msg.length)) ∧
      out = (if c.msg = "" ∧ c.grade = 0 then { c with msg := w } else c) := by
  unfold itemCheck at h
  simp only [Except.throw_bind, Except.guard_eq_ok_iff, Except.bind_eq_ok_iff] at h
  obtain ⟨-, results, hm, h⟩ := h
  have hf := List.mapM_eq_ok_iff.mp hm
  -- for `beq_iff_eq` on grades: instance search tries two ways through the order classes first, 110k each time `simp` asks
  have : LawfulBEq ℚ := instLawfulBEq
  cases hb : maxRat (results.map (·.grade)) with
  | none => rw [hb] at h; cases h
  | some best =>
    cases hc : firstMaxBy (fun r => r.msg.length) (results.filter (fun r => r.grade == best)) with
    | none => simp only [hb, hc] at h; cases h
    | some c =>
      simp only [hb, hc, Except.pure_eq_ok_iff, Bool.and_eq_true, beq_iff_eq] at h
      obtain ⟨-, hball⟩ := maxRat_spec hb
      obtain ⟨hcm, hcall⟩ := firstMaxBy_spec hc
      simp only [List.mem_filter, beq_iff_eq] at hcm hcall
      obtain ⟨p, hp, hpc⟩ := hf.mem_right c hcm.1
      refine ⟨p, hp, c, hpc, fun q hq r hr => ?_, by rw [← h, hcm.2]⟩
      obtain ⟨r', hr', hqr⟩ := hf.mem_left q hq
      cases hr.symm.trans hqr
      exact ⟨hcm.2 ▸ hball _ (List.mem_map_of_mem hr'), fun hg => hcall r ⟨hr', hg.trans hcm.2⟩⟩

theorem itemCheck_mem {answers : List (Answer ε)} {inp : String} {out : IRes} (h : itemCheck cr w answers inp = .ok out) :
    ∃ p ∈ expand answers, ∃ r, cr p.1 p.2 inp = .ok r ∧ out.ok = r.ok ∧ out.grade = r.grade := by
  obtain ⟨p, hp, c, hc, -, rfl⟩ := itemCheck_ok h
  exact ⟨p, hp, c, hc, by split <;> exact ⟨rfl, rfl⟩⟩

end Item

section Optimal
variable {α β ρ : Type} {check : α → β → M ρ} {grade : ρ → ℚ} {answers : List α} {inputs : List β} {out : List ρ}

theorem findOptimalOrder_ok (h : findOptimalOrder check grade answers inputs = .ok out) :
    ∃ mat idx, inputs.mapM (fun i => answers.mapM fun a => check a i) = .ok mat ∧
      Mk.compute (mat.map fun row => row.map fun r => 1 - grade r) = some idx ∧
      out = idx.filterMap fun p => (mat[p.1]?).bind fun row => row[p.2]? := by
  unfold findOptimalOrder at h
  obtain ⟨mat, hm, h⟩ := Except.bind_eq_ok_iff.mp h
  cases hc : Mk.compute (mat.map fun row => row.map fun r => 1 - grade r) with
  | none => simp only [hc] at h; cases h
  | some idx => simp only [hc, Except.pure_eq_ok_iff] at h; exact ⟨mat, idx, hm, hc, h.symm⟩

theorem findOptimalOrder_mem (h : findOptimalOrder check grade answers inputs = .ok out) :
    ∀ r ∈ out, ∃ a ∈ answers, ∃ i ∈ inputs, check a i = .ok r := by
  obtain ⟨mat, idx, hm, -, rfl⟩ := findOptimalOrder_ok h
  intro r hr
  obtain ⟨p, -, hp⟩ := List.mem_filterMap.mp hr
  obtain ⟨row, hrow, hp⟩ := Option.bind_eq_some_iff.mp hp
  obtain ⟨i, hi, hir⟩ := (List.mapM_eq_ok_iff.mp hm).mem_right row (List.mem_of_getElem? hrow)
  obtain ⟨a, ha, har⟩ := (List.mapM_eq_ok_iff.mp hir).mem_right r (List.mem_of_getElem? hp)
  exact ⟨a, ha, i, hi, har⟩

end Optimal

section SingleList
variable {α : Type} {cfg : SLCfg} {sub : α → String → M IRes} {items : List α} {inp : String} {gl : List IRes}

theorem slCheckResponse_eq (cfg : SLCfg) (sub : α → String → M IRes) (m : AnsMeta) (items : List α) (inp : String) :
    slCheckResponse cfg sub m items inp =
      (slGradeList cfg sub items inp).map (fun gl => processGradeList cfg gl items.length m) := by
  unfold slCheckResponse slGradeList
  simp only [Except.throw_bind, Except.map_ite, Except.bind_pure_map]
  rfl

theorem slGradeList_ok (h : slGradeList cfg sub items inp = .ok gl) :
    let sl := pySplit inp cfg.delimiter
    let n := max items.length sl.length
    (if cfg.ordered then ((padTo n items).zip (padTo n sl)).mapM (fun p => paddedCheck sub p.1 p.2)
     else findOptimalOrder (paddedCheck sub) (·.grade) (padTo n items) (padTo n sl)) = .ok gl := by
  unfold slGradeList at h
  simp only [Except.throw_bind, Except.guard_eq_ok_iff] at h
  cases hm : cfg.missingError <;> simp only [hm, Bool.false_eq_true, if_true, if_false, Except.guard_eq_ok_iff] at h
  · exact h.2
  · exact h.2.2

theorem slGradeList_mem (h : slGradeList cfg sub items inp = .ok gl) :
    ∀ r ∈ gl, r = autoFail ∨ ∃ a ∈ items, ∃ i, sub a i = .ok r := by
  have key : ∀ {n x y r}, x ∈ padTo n items → paddedCheck sub x y = .ok r → r = autoFail ∨ ∃ a ∈ items, ∃ i, sub a i = .ok r := by
    intro n x y r hx hr
    simp only [padTo, List.mem_append, List.mem_map, List.mem_replicate] at hx
    rcases hx with ⟨a, ha, rfl⟩ | ⟨-, rfl⟩
    · cases y with
      | none => exact Or.inl (Except.ok.inj hr).symm
      | some i => exact Or.inr ⟨a, ha, i, hr⟩
    · exact Or.inl (Except.ok.inj hr).symm
  have h := slGradeList_ok h
  intro r hr
  split at h
  · obtain ⟨p, hp, hpr⟩ := (List.mapM_eq_ok_iff.mp h).mem_right r hr
    exact key (List.of_mem_zip hp).1 hpr
  · obtain ⟨x, hx, y, -, hc⟩ := findOptimalOrder_mem h r hr
    exact key hx hc

theorem intervalCheckResponse_ok {m : AnsMeta} {opn cls : List BrAns} {lo hi : α} {cfg : IvCfg} {out : IRes}
    (h : intervalCheckResponse cfg sub m opn lo hi cls inp = .ok out) :
    ∃ mid g0 g1, slGradeList cfg.sl sub [lo, hi] mid = .ok [g0, g1] ∧
      out = processGradeList cfg.sl [gradeBracket opn (String.singleton ((pyStrip inp).toList.headD ' ')) g0,
        gradeBracket cls (String.singleton ((pyStrip inp).toList.getLastD ' ')) g1] 2 m := by
  unfold intervalCheckResponse at h
  simp only [Except.throw_bind, Except.guard_eq_ok_iff, Except.bind_eq_ok_iff] at h
  obtain ⟨-, -, -, gl, hgl, h⟩ := h
  split at h
  · exact ⟨_, _, _, hgl, (Except.pure_eq_ok_iff.mp h).symm⟩
  · cases h

end SingleList

section ListG
variable {α : Type} {cfg : LCfg} {sub : ℕ → α → GInput → M SubRes} {student : List String}

theorem performCheck_ok {answers : List α} {o : LOut} (h : performCheck cfg sub answers student = .ok o) :
    let gmap := if cfg.grouping.isEmpty then none else createGroupingMap cfg.grouping
    (if cfg.grouping.isEmpty then answers.length = student.length
      else cfg.grouping.length = student.length ∧ groupsMatch cfg.grouping answers.length = true) ∧
    ∃ inputList, o = { overall := "", entries := ungroupify gmap inputList } ∧
      (if cfg.ordered then ((answers.zip (groupify gmap student)).zipIdx).mapM (fun p => sub p.2 p.1.1 p.1.2)
       else findOptimalOrder (sub 0) SubRes.grade answers (groupify gmap student)) = .ok inputList := by
  unfold performCheck at h
  simp only [Except.throw_bind, Except.ite_bind] at h
  cases hg : cfg.grouping.isEmpty <;>
    simp only [hg, Bool.not_true, Bool.not_false, Bool.false_eq_true, if_true, if_false, Except.guard_eq_ok_iff, bne_iff_ne, ne_eq,
      not_not, Bool.not_eq_true', Bool.not_eq_false, Except.bind_eq_ok_iff, Except.pure_eq_ok_iff] at h ⊢
  · obtain ⟨h1, h2, il, hil, h⟩ := h
    exact ⟨⟨h1, h2⟩, il, h.symm, hil⟩
  · obtain ⟨h1, il, hil, h⟩ := h
    exact ⟨h1, il, h.symm, hil⟩

theorem getBestResult_spec {results : List LOut} {r : LOut} (h : getBestResult results = some r) :
    r ∈ results ∧ ∀ x ∈ results, total x ≤ total r := by
  unfold getBestResult at h
  match results, h with
  | [x], h => cases h; simp only [List.mem_singleton, forall_eq, le_refl, and_self]
  | r0 :: r1 :: rest, h =>
    dsimp only at h
    cases hb : maxRat ((r0 :: r1 :: rest).map total) with
    | none => simp only [hb] at h; cases h
    | some best =>
      simp only [hb] at h
      generalize r0 :: r1 :: rest = l at hb h ⊢
      have key : ∀ c ∈ l.filter (fun r => total r == best), c ∈ l ∧ ∀ x ∈ l, total x ≤ total c := by
        intro c hc
        obtain ⟨hc, hcb⟩ := List.mem_filter.mp hc
        exact ⟨hc, fun x hx => of_decide_eq_true hcb ▸ (maxRat_spec hb).2 _ (List.mem_map_of_mem hx)⟩
      split at h
      · next hc => cases h; exact key r (hc ▸ List.mem_singleton_self r)
      · obtain ⟨p, hp, rfl⟩ := Option.map_eq_some_iff.mp h
        exact key p.1 (List.of_mem_zip (List.mem_of_find?_eq_some hp)).1

theorem listCheck_ok {answers : List (List α)} {o : LOut} (h : listCheck cfg sub answers student = .ok o) :
    ∃ al ∈ answers, ∃ best, performCheck cfg sub al student = .ok best ∧
      ((o = best ∧ (cfg.partialCredit = false → ∀ e ∈ best.entries, ∃ r, e = some r ∧ r.ok = .yes)) ∨
       (cfg.partialCredit = false ∧
        o = { best with entries := best.entries.map (fun e => e.map (fun r => { r with ok := .no, grade := 0 })) })) := by
  unfold listCheck at h
  simp only [Except.throw_bind, Except.guard_eq_ok_iff, Except.bind_eq_ok_iff] at h
  obtain ⟨-, results, hres, h⟩ := h
  cases hb : getBestResult results with
  | none => simp only [hb] at h; cases h
  | some best =>
    simp only [hb] at h
    obtain ⟨al, hal, hpc⟩ := (List.mapM_eq_ok_iff.mp hres).mem_right best (getBestResult_spec hb).1
    refine ⟨al, hal, best, hpc, ?_⟩
    split at h
    · next hc =>
      simp only [Bool.and_eq_true, Bool.not_eq_true'] at hc
      exact Or.inr ⟨hc.1, (Except.pure_eq_ok_iff.mp h).symm⟩
    · next hc =>
      refine Or.inl ⟨(Except.pure_eq_ok_iff.mp h).symm, fun hp e he => ?_⟩
      simp only [hp, Bool.not_false, Bool.true_and, Bool.not_eq_true', Bool.not_eq_false, List.all_eq_true] at hc
      have := hc e he
      cases e with
      | none => cases this
      | some r => exact ⟨r, rfl, beq_iff_eq.mp this⟩

end ListG

theorem call_ok {cfg : CallCfg} {att : Option ℤ} {log : String} {inp : GInput} {res : M CheckOut} {out : At.Out}
    (h : call cfg att log inp res = .ok out) :
    ∃ r o1 o2, res = .ok r ∧ stripKeys r = some o1 ∧
      (cfg.sched = none ∧ o2 = o1 ∨ ∃ s, cfg.sched = some s ∧ At.applyAttempt s cfg.attemptMsg att o1 = .ok o2) ∧
      out = formatMessages (if cfg.debug then appendLog log o2 else o2) := by
  unfold call at h
  simp only [Except.throw_bind, pure_bind] at h
  rcases res with e | r <;> dsimp only at h
  · by_cases hd : cfg.debug = true
    · rw [if_pos hd] at h; cases h
    · rw [if_neg hd] at h; cases e <;> cases h
  · cases hs : stripKeys r with
    | none => simp only [hs] at h; cases h
    | some o1 =>
      refine ⟨r, o1, ?_⟩
      cases hsch : cfg.sched with
      | none =>
        simp only [hs, hsch, Except.pure_eq_ok_iff] at h
        exact ⟨o1, rfl, hs, Or.inl ⟨rfl, rfl⟩, h.symm⟩
      | some s =>
        cases ha : At.applyAttempt s cfg.attemptMsg att o1 with
        | error e => simp only [hs, hsch, ha] at h; cases h
        | ok o2 =>
          simp only [hs, hsch, ha, Except.pure_eq_ok_iff] at h
          exact ⟨o2, rfl, hs, Or.inr ⟨s, rfl, ha⟩, h.symm⟩

end Gr
