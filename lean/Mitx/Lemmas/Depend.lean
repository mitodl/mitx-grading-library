import Mitx.Model.Depend
/-! What the functions of Model/Depend return: dictionaries (`get`/`set`/`prune`), the resolution loop as a `Run` of evaluations,
`badItems`, `sortedSet`, and the `head_{n}` matcher. Core Lean only. -/
namespace Dp
variable {V : Type}

theorem lookup_cons_ite (x a : String) (b : V) (r : List (String × V)) :
    List.lookup x ((a, b) :: r) = if x = a then some b else List.lookup x r := by
  rw [List.lookup_cons]
  by_cases h : x = a
  · rw [if_pos h, beq_iff_eq.mpr h]
  · rw [if_neg h, beq_eq_false_iff_ne.mpr h]

theorem get_set (d : Dict V) (k : String) (v : V) (x : String) :
    (d.set k v).get x = if x = k then some v else d.get x := by
  unfold Dict.get
  induction d with
  | nil => rw [Dict.set, lookup_cons_ite]
  | cons p r ih =>
    obtain ⟨a, b⟩ := p
    rw [Dict.set]
    split
    · rename_i h
      rw [lookup_cons_ite, lookup_cons_ite, h]
      split <;> rfl
    · rename_i h
      rw [lookup_cons_ite, lookup_cons_ite, ih]
      split
      · rename_i hx; rw [if_neg (hx ▸ h)]
      · rfl

theorem get_set_self (d : Dict V) (k : String) (v : V) : (d.set k v).get k = some v := by
  simp [get_set]

theorem get_set_ne {d : Dict V} {k x : String} {v : V} (h : x ≠ k) : (d.set k v).get x = d.get x := by
  simp [get_set, h]

theorem lookup_filter_key (p : String → Bool) (c : Dict V) (x : String) :
    (c.filter (fun q => p q.1)).lookup x = if p x then c.lookup x else none := by
  induction c with
  | nil => simp
  | cons q r ih =>
    obtain ⟨a, b⟩ := q
    rw [List.filter_cons, lookup_cons_ite]
    by_cases hx : x = a
    · subst hx; cases hp : p x <;> simp [ih, hp]
    · cases p a <;> simp [lookup_cons_ite, ih, hx]

theorem prune_get (c : Dict V) (syms : List String) (x : String) :
    (prune c syms).get x = if x ∈ syms then none else c.get x := by
  unfold prune Dict.get
  rw [lookup_filter_key (fun k => !syms.contains k)]
  by_cases h : x ∈ syms <;> simp [h]

/-- the names of `ds` are not yet defined in `env`, and distinct -/
def Fresh (ds : List (Dep V)) (env : Dict V) : Prop :=
  (∀ d ∈ ds, env.get d.name = none) ∧ (ds.map (·.name)).Nodup

def Extends (env env' : Dict V) : Prop := ∀ x v, env.get x = some v → env'.get x = some v

theorem Extends.refl (env : Dict V) : Extends env env := fun _ _ h => h
theorem Extends.trans {a b c : Dict V} (h1 : Extends a b) (h2 : Extends b c) : Extends a c :=
  fun x v h => h2 x v (h1 x v h)

theorem Extends.ne_none {a b : Dict V} (h : Extends a b) {x : String} (hx : a.get x ≠ none) : b.get x ≠ none := by
  obtain ⟨v, hv⟩ := Option.ne_none_iff_exists'.mp hx
  rw [h x v hv]
  exact Option.some_ne_none v

theorem Extends.set {env : Dict V} {k : String} {v : V} (h : env.get k = none) : Extends env (env.set k v) := by
  intro x w hx
  by_cases hk : x = k
  · subst hk; rw [h] at hx; cases hx
  · rw [get_set_ne hk]; exact hx

/-- a dependent's evaluator looks only at its declared dependencies (`depends` = the variables its formula uses) -/
def Local (d : Dep V) : Prop := ∀ e1 e2 : Dict V, (∀ x ∈ d.deps, e1.get x = e2.get x) → d.eval e1 = d.eval e2

/-- every dependent of `ds` has in `env'` the value its formula gives on `env'` -/
def Solves (ds : List (Dep V)) (env' : Dict V) : Prop := ∀ d ∈ ds, env'.get d.name = some (d.eval env')

theorem ready_true {env : Dict V} {d : Dep V} (h : ready env d = true) : ∀ x ∈ d.deps, ∃ v, env.get x = some v := by
  simpa [ready, Dict.has, Option.isSome_iff_exists] using h

theorem ready_false {env : Dict V} {d : Dep V} (h : ready env d = false) : ∃ x ∈ d.deps, env.get x = none := by
  simpa [ready, Dict.has] using h

theorem Fresh.perm {ds ds' : List (Dep V)} {env : Dict V} (hf : Fresh ds env) (hp : ds.Perm ds') : Fresh ds' env :=
  ⟨fun d hd => hf.1 d (hp.symm.subset hd), (hp.map (·.name)).nodup_iff.mp hf.2⟩

/-- what the loop does, whatever the order: the dependents `done` are evaluated one after the other from `e`, each with
all its dependencies there when its turn comes, and `e'` is the sample afterwards -/
inductive Run : List (Dep V) → Dict V → Dict V → Prop
  | nil (e : Dict V) : Run [] e e
  | cons {d : Dep V} {ds : List (Dep V)} {e e' : Dict V} :
      ready e d = true → Run ds (e.set d.name (d.eval e)) e' → Run (d :: ds) e e'

theorem Run.append {a b : List (Dep V)} {e e1 e2 : Dict V} (h1 : Run a e e1) (h2 : Run b e1 e2) : Run (a ++ b) e e2 := by
  induction h1 with
  | nil => exact h2
  | cons hr _ ih => exact .cons hr (ih h2)

theorem Run.preserves (I : Dict V → Prop) {done : List (Dep V)} {e e' : Dict V} (h : Run done e e')
    (hstep : ∀ d ∈ done, ∀ e, I e → ready e d = true → I (e.set d.name (d.eval e))) (h0 : I e) : I e' := by
  induction h with
  | nil => exact h0
  | cons hr _ ih =>
    exact ih (fun d hd => hstep d (List.mem_cons_of_mem _ hd)) (hstep _ List.mem_cons_self _ h0 hr)

/-- `Local` makes the value computed with all dependencies there the dependent's value in every later sample -/
theorem eval_extends {d : Dep V} {e e' : Dict V} (hloc : Local d) (hr : ready e d = true) (hx : Extends e e') :
    d.eval e = d.eval e' :=
  hloc e e' fun x m => by obtain ⟨v, hv⟩ := ready_true hr x m; rw [hv, hx x v hv]

/-- a run over fresh names only adds: the old entries stay, the dependents still waiting (`rest`) stay undefined, each
evaluated one has the value its formula gives on the final sample, and nothing else is defined -/
theorem Run.spec {done rest : List (Dep V)} {e e' : Dict V} (h : Run done e e') (hloc : ∀ d ∈ done, Local d)
    (hf : Fresh (done ++ rest) e) :
    Extends e e' ∧ Fresh rest e' ∧ Solves done e' ∧
      ∀ x, e'.get x ≠ none → e.get x ≠ none ∨ ∃ d ∈ done, d.name = x := by
  induction h with
  | nil => exact ⟨.refl _, hf, nofun, fun _ h => .inl h⟩
  | @cons d ds e e' hr _ ih =>
    obtain ⟨hfn, hnd⟩ := hf
    obtain ⟨hnd1, hnd2⟩ := List.nodup_cons.mp hnd
    have hup : Extends e (e.set d.name (d.eval e)) := Extends.set (hfn d List.mem_cons_self)
    obtain ⟨h1, h2, h3, h4⟩ := ih (fun d' hd' => hloc d' (List.mem_cons_of_mem _ hd'))
      ⟨fun d' hd' => by
        rw [get_set_ne fun e => hnd1 (List.mem_map.mpr ⟨d', hd', e⟩)]
        exact hfn d' (List.mem_cons_of_mem _ hd'), hnd2⟩
    refine ⟨hup.trans h1, h2, List.forall_mem_cons.mpr ⟨?_, h3⟩, fun x hx => ?_⟩
    · rw [h1 _ _ (get_set_self _ _ _), eval_extends (hloc d List.mem_cons_self) hr (hup.trans h1)]
    · by_cases hk : x = d.name
      · exact .inr ⟨d, List.mem_cons_self, hk.symm⟩
      · refine (h4 x hx).imp (fun hx' => ?_) fun ⟨d', hd', hn⟩ => ⟨d', List.mem_cons_of_mem _ hd', hn⟩
        rwa [get_set_ne hk] at hx'

/-- one pass evaluates some of `ds`, in order, and hands back the others; a pass that evaluates nothing changes nothing,
and then no dependent was ready -/
theorem sweep_run : ∀ (ds : List (Dep V)) (env : Dict V), ∃ done, (done ++ (sweep ds env).2).Perm ds ∧
    Run done env (sweep ds env).1 ∧ (done = [] → sweep ds env = (env, ds) ∧ ∀ d ∈ ds, ready env d = false)
  | [], env => ⟨[], .refl _, .nil env, fun _ => ⟨rfl, nofun⟩⟩
  | d :: ds, env => by
    by_cases hr : ready env d = true
    · obtain ⟨done, hp, h, _⟩ := sweep_run ds (env.set d.name (d.eval env))
      rw [sweep, if_pos hr]
      exact ⟨d :: done, hp.cons d, .cons hr h, nofun⟩
    · obtain ⟨done, hp, h, h0⟩ := sweep_run ds env
      rw [sweep, if_neg hr]
      refine ⟨done, List.perm_middle.trans (hp.cons d), h, fun hd => ?_⟩
      rw [(h0 hd).1]
      exact ⟨rfl, List.forall_mem_cons.mpr ⟨Bool.of_not_eq_true hr, (h0 hd).2⟩⟩

/-- the loop evaluates `done` and stops with `stuck`; with one unit of fuel per dependent it stops only when no
dependent left is ready -/
theorem resolve_run (f : Nat) (ds : List (Dep V)) (env : Dict V) : ∃ done,
    match resolve f ds env with
    | .inl e => done.Perm ds ∧ Run done env e
    | .inr (e, stuck) => (done ++ stuck).Perm ds ∧ Run done env e ∧
        (ds.length ≤ f → stuck ≠ [] ∧ ∀ d ∈ stuck, ready e d = false) := by
  fun_induction resolve f ds env with
  | case1 => exact ⟨[], .refl _, .nil _⟩
  | case2 => exact ⟨[], .refl _, .nil _, fun hl => absurd hl (Nat.not_succ_le_zero _)⟩
  | case3 f d ds env r hlt ih =>
    obtain ⟨done0, hp0, h0, _⟩ := sweep_run (d :: ds) env
    obtain ⟨done, ih⟩ := ih
    refine ⟨done0 ++ done, ?_⟩
    split at ih
    · exact ⟨(ih.1.append_left done0).trans hp0, h0.append ih.2⟩
    · refine ⟨(List.append_assoc _ _ _ ▸ ih.1.append_left done0).trans hp0, h0.append ih.2.1, fun hl => ih.2.2 ?_⟩
      simp only [List.length_cons] at hl hlt; omega
  | case4 f d ds env r hlt =>
    obtain ⟨done0, hp0, h0, hn⟩ := sweep_run (d :: ds) env
    have hd : done0 = [] := List.eq_nil_of_length_eq_zero (by
      have := hp0.length_eq; simp only [List.length_append, r] at this hlt; omega)
    subst hd
    obtain ⟨e1, h3⟩ := hn rfl
    simp only [r, e1]
    exact ⟨[], .refl _, .nil env, fun _ => ⟨List.cons_ne_nil _ _, h3⟩⟩

theorem resolve_preserves (I : Dict V → Prop) (f : Nat) (ds : List (Dep V)) (env e1 : Dict V)
    (hstep : ∀ d ∈ ds, ∀ e, I e → ready e d = true → I (e.set d.name (d.eval e))) (h0 : I env)
    (h : resolve f ds env = .inl e1) : I e1 := by
  obtain ⟨done, hr⟩ := resolve_run f ds env
  rw [h] at hr
  exact hr.2.preserves I (fun d hd => hstep d (hr.1.subset hd)) h0

theorem mem_insertSorted (x y : String) (l : List String) : x ∈ insertSorted y l ↔ x = y ∨ x ∈ l := by
  induction l with
  | nil => simp [insertSorted]
  | cons z zs ih =>
    unfold insertSorted
    split
    · exact List.mem_cons
    · split
      · rename_i h
        exact ⟨.inr, fun hx => hx.elim (fun e => h ▸ e ▸ List.mem_cons_self) id⟩
      · rw [List.mem_cons, ih, List.mem_cons]
        exact or_left_comm

theorem mem_sortedSet (x : String) (l : List String) : x ∈ sortedSet l ↔ x ∈ l := by
  induction l with
  | nil => simp [sortedSet]
  | cons y ys ih =>
    have : sortedSet (y :: ys) = insertSorted y (sortedSet ys) := rfl
    rw [this, mem_insertSorted, ih]; simp

theorem mem_badItems {e : Dict V} {stuck : List (Dep V)} {x : String} :
    x ∈ badItems e stuck ↔ (∃ d ∈ stuck, x ∈ d.deps) ∧ (∀ d ∈ stuck, d.name ≠ x) ∧ e.get x = none := by
  simp only [badItems, List.mem_filter, List.mem_flatMap, Bool.and_eq_true, Bool.not_eq_true', List.any_eq_false,
    beq_iff_eq, Dict.has, Option.isSome_eq_false_iff, Option.isNone_iff_eq_none]

theorem stripPrefix_eq_some_iff : ∀ (a s r : List Char), stripPrefix a s = some r ↔ s = a ++ r := by
  intro a
  induction a with
  | nil => intro s r; simp [stripPrefix]
  | cons x xs ih =>
    intro s r
    cases s with
    | nil => simp [stripPrefix]
    | cons y ys =>
      simp only [stripPrefix]
      split
      · rename_i h; subst h; simp [ih]
      · rename_i h; simp; intro h'; exact (h h'.symm).elim

theorem matchHead_iff (head s : List Char) :
    matchHead head s = true ↔ ∃ n, s = head ++ ['_', '{'] ++ n ++ ['}'] ∧ canonicalInt n = true := by
  unfold matchHead
  constructor
  · intro h
    split at h
    · cases h
    · rename_i r hr
      rw [stripPrefix_eq_some_iff] at hr
      split at h
      · rename_i r'
        split at h
        · rename_i nrev hrev
          rw [List.reverse_eq_cons_iff.mp hrev] at hr
          exact ⟨nrev.reverse, by rw [hr]; simp, h⟩
        · cases h
      · cases h
  · rintro ⟨n, hs, hn⟩
    have hr : stripPrefix head s = some ('_' :: '{' :: (n ++ ['}'])) := by
      rw [stripPrefix_eq_some_iff]; subst hs; simp
    rw [hr]
    simp [hn]

theorem numberedMatch_some {heads : List String} {s h : String} (hm : numberedMatch heads s = some h) :
    h ∈ heads ∧ ∃ n, s.toList = h.toList ++ ['_', '{'] ++ n ++ ['}'] ∧ canonicalInt n = true := by
  unfold numberedMatch at hm
  have h2 := List.find?_some hm
  exact ⟨List.mem_of_find?_eq_some hm, (matchHead_iff _ _).mp (by simpa using h2)⟩

end Dp
