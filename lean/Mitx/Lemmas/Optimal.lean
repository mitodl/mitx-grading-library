import Mitx.Lemmas.Check
import Mitx.Munkres.Square
import Mathlib.Data.List.FinRange
/-! `find_optimal_order` returns the results of an assignment of inputs to answers with maximal total credit
(link between the Munkres theorem and the list graders). -/
namespace Gr

theorem matFn_ofFn {n : Nat} (A : Fin n → Fin n → ℚ) (i j : Fin n) :
    Mk.matFn (List.ofFn fun i => List.ofFn (A i)) i j = A i j := by
  simp only [Mk.matFn, List.getD_eq_getElem?_getD, List.length_ofFn, Fin.is_lt, getElem?_pos, List.getElem_ofFn,
    Fin.eta, Option.getD_some]

/-- **Optimal assignment.** If `findOptimalOrder` succeeds on `n` answers and `n` inputs (`n > 0`), there is a
    result matrix `R` (`R i j` = result of checking input `i` against answer `j`) and a permutation `τ` such that
    the returned list is `[R 0 (τ 0), R 1 (τ 1), …]` — one result per input, in input order — and no other
    assignment of inputs to answers has a larger total credit. -/
theorem findOptimalOrder_optimal {α β ρ : Type} {check : α → β → M ρ} {grade : ρ → ℚ} {answers : List α} {inputs : List β}
    {n : ℕ} (hn : 0 < n) (ha : answers.length = n) (hi : inputs.length = n) {out : List ρ}
    (h : findOptimalOrder check grade answers inputs = .ok out) :
    ∃ (R : Fin n → Fin n → ρ) (τ : Equiv.Perm (Fin n)),
      (∀ i j : Fin n, check (answers[j.1]'(by rw [ha]; exact j.2)) (inputs[i.1]'(by rw [hi]; exact i.2)) = .ok (R i j)) ∧
      out = List.ofFn (fun i : Fin n => R i (τ i)) ∧
      ∀ σ : Equiv.Perm (Fin n), ∑ i, grade (R i (σ i)) ≤ ∑ i, grade (R i (τ i)) := by
  obtain ⟨mat, idx, hm, hidx, rfl⟩ := findOptimalOrder_ok h
  -- the credit matrix as a function on `Fin n × Fin n`
  obtain ⟨rows, rfl, hrows⟩ := List.mapM_ok_ofFn hi hm
  choose R hR hcheck using fun i => List.mapM_ok_ofFn ha (hrows i)
  obtain rfl : rows = fun i => List.ofFn (R i) := funext hR
  have hmat : (List.ofFn fun i => List.ofFn (R i)).map (fun row => row.map fun r => 1 - grade r)
      = List.ofFn fun i => List.ofFn fun j => 1 - grade (R i j) := by
    simp only [List.map_ofFn, Function.comp_def]
  have hsq : Mk.IsSquare (List.ofFn fun i : Fin n => List.ofFn fun j : Fin n => 1 - grade (R i j)) n :=
    ⟨hn, List.length_ofFn, fun row hrow => by
      obtain ⟨i, rfl⟩ := (List.mem_ofFn' ..).mp hrow
      exact List.length_ofFn⟩
  obtain ⟨τ, hcomp, hopt⟩ := Mk.compute_square hsq
  obtain rfl := Option.some.inj ((hmat ▸ hidx).symm.trans hcomp)
  refine ⟨R, τ, hcheck, ?_, fun σ => ?_⟩
  · rw [← List.map_coe_finRange_eq_range, List.map_map, List.filterMap_map]
    conv_rhs => rw [List.ofFn_eq_map, ← List.filterMap_eq_map]
    refine List.filterMap_congr fun i _ => ?_
    simp only [List.getElem?_ofFn, Function.comp_apply, Fin.is_lt, ↓reduceDIte, Fin.eta, Option.bind_some,
      List.length_ofFn, getElem?_pos, List.getElem_ofFn]
  · have := hopt σ
    simp only [matFn_ofFn (fun i j => 1 - grade (R i j)), Finset.sum_sub_distrib] at this
    exact (sub_le_sub_iff_left _).mp this
end Gr
