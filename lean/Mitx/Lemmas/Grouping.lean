import Mitx.Model.Grade
import Mathlib.Data.List.Forall2
import Mathlib.Order.MinMax
import Mathlib.Data.List.Nodup
import Mathlib.Data.List.Range
/-! Grouping of ListGrader inputs: `create_grouping_map` yields a partition of the input positions and `ungroupify`
    stores the `j`-th result of group `g` at the position of the `j`-th input of that group — every result is reported at the position of the input it grades. -/
namespace Gr

/-- a grouping map is a partition of the positions `0 … N-1` -/
structure ValidMap (gs : List (List Nat)) (N : Nat) : Prop where
  nodup : gs.flatten.Nodup
  mem : ∀ i, i ∈ gs.flatten ↔ i < N

theorem foldl_max_le_iff (l : List Nat) (a b : Nat) : l.foldl max a ≤ b ↔ a ≤ b ∧ ∀ x ∈ l, x ≤ b := by
  induction l generalizing a with
  | nil => simp
  | cons y ys ih => simp only [List.foldl_cons, ih, max_le_iff, List.forall_mem_cons, and_assoc]

/-- positions of the inputs that carry group number `g + 1` -/
def groupOf (grouping : List Nat) (g : Nat) : List Nat := (grouping.zipIdx.filter (fun p => p.1 == g + 1)).map (·.2)

theorem mem_groupOf {grouping : List Nat} {g i : Nat} : i ∈ groupOf grouping g ↔ grouping[i]? = some (g + 1) := by
  unfold groupOf
  simp only [List.mem_map, List.mem_filter, beq_iff_eq, Prod.exists, exists_eq_right]
  exact List.mem_zipIdx_iff_getElem?

theorem groupOf_nodup (grouping : List Nat) (g : Nat) : (groupOf grouping g).Nodup := by
  unfold groupOf
  have h : (grouping.zipIdx.map (·.2)).Nodup := by
    rw [List.zipIdx_map_snd]; exact List.nodup_range' ..
  exact (h.sublist ((List.filter_sublist).map _))

theorem createGroupingMap_eq {grouping : List Nat} {gs : List (List Nat)} (h : createGroupingMap grouping = some gs) :
    0 < grouping.foldl max 0 ∧ gs = (List.range (grouping.foldl max 0)).map (groupOf grouping) ∧
      (∀ x ∈ grouping, 1 ≤ x) ∧ ∀ g ∈ gs, g ≠ [] := by
  unfold createGroupingMap at h
  split at h
  · cases h
  · next k hk =>
    dsimp only at h
    split at h <;> cases h
    next hc =>
    simp only [Bool.and_eq_true, List.all_eq_true, decide_eq_true_eq, Bool.not_eq_true', List.isEmpty_eq_false_iff] at hc
    exact ⟨Nat.pos_of_ne_zero hk, rfl, hc.2, hc.1⟩

/-- **`create_grouping_map` yields a partition** of the input positions; group `g` holds exactly the positions whose group
    number is `g + 1`, in increasing order of position. -/
theorem createGroupingMap_valid {grouping : List Nat} {gs : List (List Nat)} (h : createGroupingMap grouping = some gs) :
    ValidMap gs grouping.length ∧ ∀ g i, g < gs.length → (i ∈ gs.getD g [] ↔ grouping[i]? = some (g + 1)) := by
  obtain ⟨hk, rfl, hall, _⟩ := createGroupingMap_eq h
  set k := grouping.foldl max 0
  refine ⟨⟨?_, ?_⟩, ?_⟩
  · refine List.nodup_flatten.mpr ⟨fun l hl => ?_, List.pairwise_map.mpr ((List.nodup_range (n := k)).imp fun hab => ?_)⟩
    · obtain ⟨g, _, rfl⟩ := List.mem_map.mp hl
      exact groupOf_nodup _ _
    · exact List.disjoint_left.mpr fun i hi hi' =>
        hab (Nat.succ.inj (Option.some.inj ((mem_groupOf.mp hi).symm.trans (mem_groupOf.mp hi'))))
  · intro i
    simp only [List.mem_flatten, List.mem_map, List.mem_range, exists_exists_and_eq_and]
    constructor
    · rintro ⟨g, _, hg⟩
      rw [mem_groupOf] at hg
      exact (List.getElem?_eq_some_iff.mp hg).1
    · intro hi
      have h1 := hall _ (List.getElem_mem hi)
      have h2 := ((foldl_max_le_iff grouping 0 _).mp le_rfl).2 _ (List.getElem_mem hi)
      refine ⟨grouping[i] - 1, Nat.sub_one_lt_of_le h1 h2, ?_⟩
      rw [mem_groupOf, List.getElem?_eq_getElem hi, Nat.sub_add_cancel h1]
  · intro g i hg
    simp only [List.length_map, List.length_range] at hg
    simp only [List.getD_eq_getElem?_getD, List.getElem?_map, List.getElem?_range hg, Option.map_some, Option.getD_some]
    exact mem_groupOf

/-- shape contract between a group and the result its subgrader returned: a one-input group gets a short-form result, a
    larger group the long form with one entry per input of the group -/
def Compat (g : List Nat) (r : SubRes) : Prop :=
  (g.length = 1 ∧ ∃ x, r = .single x) ∨ (g.length ≠ 1 ∧ ∃ l, r = .multi l ∧ l.length = g.length)

theorem groupItems_eq_flat {g : List Nat} {r : SubRes} (h : Compat g r) : groupItems g r = r.flat ∧ r.flat.length = g.length := by
  rcases h with ⟨h1, x, rfl⟩ | ⟨h1, l, rfl, hl⟩
  · match g, h1 with
    | [_], _ => simp [groupItems, SubRes.flat]
  · refine ⟨?_, by simpa [SubRes.flat] using hl⟩
    match g, h1 with
    | [], _ => simp [groupItems, SubRes.flat]
    | [_], h1 => simp at h1
    | _ :: _ :: _, _ => simp [groupItems, SubRes.flat]

theorem groupWrites_fst {gs : List (List Nat)} {nested : List SubRes} (h : List.Forall₂ Compat gs nested) :
    (groupWrites gs nested).map Prod.fst = gs.flatten := by
  induction h with
  | nil => rfl
  | cons hc _ ih =>
    obtain ⟨e, hl⟩ := groupItems_eq_flat hc
    simp only [groupWrites, List.zip_cons_cons, List.flatMap_cons, List.map_append, List.flatten_cons] at ih ⊢
    rw [ih, e, List.map_fst_zip (hl ▸ le_rfl)]

theorem groupWrites_mem {gs : List (List Nat)} {nested : List SubRes} (h : List.Forall₂ Compat gs nested)
    (g j : Nat) (hg : g < gs.length) (hg' : g < nested.length) (hj : j < gs[g].length) (hj' : j < nested[g].flat.length) :
    (gs[g][j], nested[g].flat[j]) ∈ groupWrites gs nested := by
  obtain ⟨e, -⟩ := groupItems_eq_flat ((List.forall₂_iff_get.mp h).2 g hg hg')
  refine List.mem_flatMap.mpr ⟨(gs[g], nested[g]),
    List.mem_iff_getElem.mpr ⟨g, by simp only [List.length_zip, Nat.lt_min, hg, hg', and_self], by simp⟩, ?_⟩
  simp only [List.get_eq_getElem] at e
  rw [e]
  exact List.mem_iff_getElem.mpr ⟨j, by simp only [List.length_zip, Nat.lt_min, hj, hj', and_self], by simp⟩

theorem find_last_write {w : List (Nat × IRes)} (hnd : (w.map Prod.fst).Nodup) {i : Nat} {r : IRes} (hm : (i, r) ∈ w) :
    w.reverse.find? (fun x => x.1 == i) = some (i, r) := by
  cases hf : w.reverse.find? (fun x => x.1 == i) with
  | none => exact absurd (beq_self_eq_true i) (List.find?_eq_none.mp hf (i, r) (List.mem_reverse.mpr hm))
  | some x =>
    have h1 := List.find?_some hf
    simp only [beq_iff_eq] at h1
    rw [List.inj_on_of_nodup_map hnd (List.mem_reverse.mp (List.mem_of_find?_eq_some hf)) hm h1]

theorem ValidMap.len {gs : List (List Nat)} {N : Nat} (hv : ValidMap gs N) (hN : 0 < N) : gs.flatten.foldl max 0 + 1 = N := by
  have h1 : gs.flatten.foldl max 0 ≤ N - 1 :=
    (foldl_max_le_iff _ 0 _).mpr ⟨Nat.zero_le _, fun x hx => Nat.le_sub_one_of_lt ((hv.mem x).mp hx)⟩
  have h2 : N - 1 ≤ gs.flatten.foldl max 0 :=
    ((foldl_max_le_iff _ 0 _).mp le_rfl).2 _ ((hv.mem (N - 1)).mpr (Nat.sub_one_lt hN.ne'))
  rw [Nat.le_antisymm h1 h2, Nat.sub_add_cancel hN]

/-- **Every result is reported at the position of the input it grades.** For a partition `gs` of the `N` input positions
    and subgrader results of the matching shapes, `ungroupify` returns `N` entries and the entry at position `gs[g][j]` —
    the position of the `j`-th input of group `g` — is the `j`-th result the subgrader returned for group `g`. -/
theorem ungroupify_position {gs : List (List Nat)} {nested : List SubRes} {N : Nat} (hv : ValidMap gs N) (hN : 0 < N)
    (hs : List.Forall₂ Compat gs nested) :
    (ungroupify (some gs) nested).length = N ∧
    ∀ g j (hg : g < gs.length) (hg' : g < nested.length) (hj : j < gs[g].length) (hj' : j < nested[g].flat.length),
      (ungroupify (some gs) nested)[gs[g][j]]? = some (some (nested[g].flat[j])) := by
  unfold ungroupify
  simp only [hv.len hN, List.length_map, List.length_range, true_and]
  intro g j hg hg' hj hj'
  have hp : gs[g][j] < N := (hv.mem _).mp (List.mem_flatten.mpr ⟨gs[g], List.getElem_mem hg, List.getElem_mem hj⟩)
  rw [List.getElem?_map, List.getElem?_range hp]
  simp only [Option.map_some]
  rw [find_last_write (by rw [groupWrites_fst hs]; exact hv.nodup) (groupWrites_mem hs g j hg hg' hj hj')]
  rfl

end Gr
