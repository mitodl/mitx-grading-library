import Mitx.Model.Interval
import Mitx.Lemmas.Tree
/-! IntervalGrader: bracket grading rules and the range / `ok` consistency of the result. -/
namespace Gr
open C01 At

/-- the bracket answer `b` lists the character `s` -/
def lists (s : String) (b : BrAns) : Prop := b.expect.contains s = true

theorem bestBracket_spec (answers : List BrAns) (s : String) :
    (bestBracket answers s = none ↔ ∀ b ∈ answers, ¬ lists s b) ∧
    ∀ b, bestBracket answers s = some b → b ∈ answers ∧ lists s b ∧ ∀ b' ∈ answers, lists s b' → b'.grade ≤ b.grade := by
  unfold bestBracket
  -- the loop runs left to right: induction on the answers seen so far
  induction answers using List.reverseRecOn with
  | nil => simp
  | append_singleton l a ih =>
    obtain ⟨ih0, ih1⟩ := ih
    have hmem : ∀ {p : BrAns → Prop}, (∀ b ∈ l ++ [a], p b) ↔ (∀ b ∈ l, p b) ∧ p a := by
      simp only [List.forall_mem_append, List.forall_mem_singleton, implies_true]
    rw [List.foldl_append, List.foldl_cons, List.foldl_nil, brStep.eq_def, hmem]
    by_cases ha : a.expect.contains s = true
    · rw [if_pos ha]
      refine ⟨⟨fun h => ?_, fun h => absurd ha h.2⟩, fun b hb => ?_⟩
      · split at h
        · cases h
        · split at h
          · cases h
          · cases h
      · rw [hmem, List.mem_append, List.mem_singleton]
        split at hb
        · next hacc => cases hb; exact ⟨Or.inr rfl, ha, fun b' hb' hl => absurd hl (ih0.mp hacc b' hb'), fun _ => le_rfl⟩
        · next x hacc =>
          obtain ⟨hx, hlx, hmax⟩ := ih1 x hacc
          split at hb <;> cases hb
          · next hgt => exact ⟨Or.inr rfl, ha, fun b' hb' hl => (hmax b' hb' hl).trans hgt.le, fun _ => le_rfl⟩
          · next hgt => exact ⟨Or.inl hx, hlx, hmax, fun _ => not_lt.mp hgt⟩
    · rw [if_neg ha]
      refine ⟨⟨fun h => ⟨ih0.mp h, ha⟩, fun h => ih0.mpr h.1⟩, fun b hb => ?_⟩
      obtain ⟨h1, h2, h3⟩ := ih1 b hb
      exact ⟨List.mem_append_left _ h1, h2, hmem.mpr ⟨h3, fun hl => absurd hl ha⟩⟩

theorem gradeBracket_rules (answers : List BrAns) (s : String) (e : IRes) :
    (e.grade = 0 → gradeBracket answers s e = e) ∧
    (e.grade ≠ 0 → (∀ b ∈ answers, ¬ lists s b) → (gradeBracket answers s e).grade = 0 ∧ (gradeBracket answers s e).ok = .no) ∧
    (e.grade ≠ 0 → ∀ b, bestBracket answers s = some b →
      (gradeBracket answers s e).grade = e.grade * b.grade ∧ (gradeBracket answers s e).ok = gradeToOk (e.grade * b.grade)) := by
  refine ⟨fun h0 => by simp [gradeBracket, h0], fun hne hno => ?_, fun hne b hb => ?_⟩
  · simp [gradeBracket, hne, (bestBracket_spec answers s).1.mpr hno]
  · simp [gradeBracket, hne, hb]

theorem gradeBracket_good {pin : Bool} (answers : List BrAns) (hans : ∀ b ∈ answers, 0 ≤ b.grade ∧ b.grade ≤ 1) (s : String)
    {e : IRes} (he : Good pin e) : Good pin (gradeBracket answers s e) := by
  obtain ⟨r0, r1, r2⟩ := gradeBracket_rules answers s e
  by_cases h0 : e.grade = 0
  · rw [r0 h0]; exact he
  · cases hb : bestBracket answers s with
    | none =>
      obtain ⟨g, o⟩ := r1 h0 ((bestBracket_spec answers s).1.mp hb)
      exact Good.zero g o
    | some b =>
      obtain ⟨g, o⟩ := r2 h0 b hb
      obtain ⟨b0, b1⟩ := hans b ((bestBracket_spec answers s).2 b hb).1
      exact Good.mul he.1.1 he.1.2 b0 b1 g (g ▸ o)

end Gr
