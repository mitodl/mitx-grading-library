import Mitx.Lemmas.Tree
import Mitx.Lemmas.Grouping
import Mitx.Lemmas.Optimal
/-! Shape induction over list grader trees: for validly configured trees a successful `check` returns exactly one entry per
submitted input, none missing, at every nesting level. -/
namespace Gr

/-- a subgrader result has the shape of the input it was given -/
def ShapeOf : GInput → SubRes → Prop
  | .one _, .single _ => True
  | .many l, .multi rs => rs.length = l.length
  | _, _ => False

/-- `n` entries, all present -/
def Full (o : LOut) (n : ℕ) : Prop := o.entries.length = n ∧ ∀ e ∈ o.entries, e.isSome = true

/-- a grouped input is never an empty group -/
def GOK (g : GInput) : Prop := ∀ l, g = .many l → l ≠ []

/-- the `i`-th result of `perform_check` grades the `i`-th (grouped) input. `hgm`: the grouping map in force; `hsq`, `hpos`: as
    many answers as inputs, at least one (for `findOptimalOrder_optimal`) -/
theorem performCheck_pointwise {α : Type} {cfg : LCfg} {sub : ℕ → α → GInput → M SubRes} {answers : List α} {student : List String}
    {o : LOut} (h : performCheck cfg sub answers student = .ok o) {gmap : Option (List (List ℕ))}
    (hgm : (if cfg.grouping.isEmpty then none else createGroupingMap cfg.grouping) = gmap)
    (hsq : answers.length = (groupify gmap student).length) (hpos : 0 < answers.length) :
    ∃ il, o.entries = ungroupify gmap il ∧ List.Forall₂ (fun g r => ∃ k a,
      (if cfg.ordered then answers[k]? = some a else (k = 0 ∧ a ∈ answers)) ∧ sub k a g = .ok r) (groupify gmap student) il := by
  obtain ⟨-, il, rfl, hil⟩ := performCheck_ok h
  rw [hgm] at hil ⊢
  refine ⟨il, rfl, ?_⟩
  cases hord : cfg.ordered <;> simp only [hord, Bool.false_eq_true, if_true, if_false] at hil ⊢
  · obtain ⟨R, τ, hR, rfl, -⟩ := findOptimalOrder_optimal (grade := SubRes.grade) hpos rfl hsq.symm hil
    refine List.forall₂_iff_get.mpr ⟨by rw [List.length_ofFn, hsq], fun i h₁ h₂ => ?_⟩
    rw [List.length_ofFn] at h₂
    exact ⟨0, _, ⟨rfl, List.getElem_mem _⟩, by simpa using hR ⟨i, h₂⟩ (τ ⟨i, h₂⟩)⟩
  · obtain ⟨hl, hget⟩ := List.forall₂_iff_get.mp (List.mapM_eq_ok_iff.mp hil)
    simp only [List.length_zipIdx, List.length_zip, hsq, min_self] at hl
    refine List.forall₂_iff_get.mpr ⟨hl, fun i h₁ h₂ => ?_⟩
    have := hget i (by simpa [hsq] using h₁) h₂
    simp only [List.get_eq_getElem, List.getElem_zipIdx, List.getElem_zip, Nat.zero_add] at this
    exact ⟨i, _, List.getElem?_eq_getElem (hsq ▸ h₁), this⟩

theorem ShapeOf.one {s : String} {r : SubRes} (h : ShapeOf (.one s) r) : ∃ x, r = .single x := by
  cases r with
  | single x => exact ⟨x, rfl⟩
  | multi l => cases h
theorem ShapeOf.many {l : List String} {r : SubRes} (h : ShapeOf (.many l) r) : ∃ rs, r = .multi rs ∧ rs.length = l.length := by
  cases r with
  | single x => cases h
  | multi rs => exact ⟨rs, rfl, h⟩

theorem ungroupify_none_full {σ : Type} {l : List σ} {nested : List SubRes}
    (h : List.Forall₂ (fun _ r => ∃ x, r = SubRes.single x) l nested) :
    (ungroupify none nested).length = l.length ∧ ∀ e ∈ ungroupify none nested, e.isSome = true := by
  induction h with
  | nil => exact ⟨rfl, fun _ h => nomatch h⟩
  | cons h1 _ ih =>
    obtain ⟨x, rfl⟩ := h1
    exact ⟨congrArg (· + 1) ih.1, List.forall_mem_cons.mpr ⟨rfl, ih.2⟩⟩

theorem ungroupify_some_full {gs : List (List ℕ)} {nested : List SubRes} {N : ℕ} (hv : ValidMap gs N) (hN : 0 < N)
    (hs : List.Forall₂ Compat gs nested) :
    (ungroupify (some gs) nested).length = N ∧ ∀ e ∈ ungroupify (some gs) nested, e.isSome = true := by
  unfold ungroupify
  simp only [hv.len hN, List.length_map, List.length_range, List.mem_map, List.mem_range, true_and]
  rintro _ ⟨i, hi, rfl⟩
  -- every position below `N` is the target of some write
  obtain ⟨w, hw, rfl⟩ := List.mem_map.mp (groupWrites_fst hs ▸ (hv.mem i).mpr hi)
  rw [Option.isSome_map, List.find?_isSome]
  exact ⟨w, List.mem_reverse.mpr hw, beq_self_eq_true _⟩

theorem GOK.one (s : String) : GOK (.one s) := fun l h => by cases h

/-- every result has the shape of its (grouped) input (`performCheck_pointwise`), so `ungroupify` fills every position -/
theorem performCheck_full {α : Type} {cfg : LCfg} {sub : ℕ → α → GInput → M SubRes} {answers : List α} {student : List String} {o : LOut}
    (hne : student ≠ [])
    (hgroup : cfg.grouping = [] ∨ ∃ gs, createGroupingMap cfg.grouping = some gs)
    (hsub : ∀ k a, (if cfg.ordered then answers[k]? = some a else (k = 0 ∧ a ∈ answers)) → ∀ g r, GOK g → sub k a g = .ok r → ShapeOf g r)
    (h : performCheck cfg sub answers student = .ok o) : Full o student.length := by
  have hlen := (performCheck_ok h).1
  have hspos : 0 < student.length := List.length_pos_iff.mpr hne
  rcases hgroup with hg0 | ⟨gs, hmap⟩
  · simp only [hg0, List.isEmpty_nil, if_true] at hlen
    obtain ⟨il, ho, hf⟩ := performCheck_pointwise h (gmap := none) (by simp [hg0]) (by simp [groupify, hlen]) (hlen ▸ hspos)
    have := ungroupify_none_full ((List.forall₂_map_left_iff.mp hf).imp
      fun s r ⟨k, a, hc, hr⟩ => ShapeOf.one (hsub k a hc _ r (GOK.one s) hr))
    exact ⟨ho ▸ this.1, ho ▸ this.2⟩
  · have hgne : ¬ cfg.grouping.isEmpty = true := by
      intro hc; rw [List.isEmpty_iff.mp hc] at hmap; cases hmap
    simp only [if_neg hgne, groupsMatch, hmap, beq_iff_eq] at hlen
    obtain ⟨hvalid, -⟩ := createGroupingMap_valid hmap
    rw [hlen.1] at hvalid
    -- position 0 lies in some group, so there is one: `findOptimalOrder_optimal` wants a non-empty list
    obtain ⟨grp, hgrp, -⟩ := List.mem_flatten.mp ((hvalid.mem 0).mpr hspos)
    obtain ⟨il, ho, hf⟩ := performCheck_pointwise h (gmap := some gs) (by simp [hgne, hmap]) (by rw [groupify, List.length_map, hlen.2])
      (hlen.2 ▸ List.length_pos_of_mem hgrp)
    have hcompat : List.Forall₂ Compat gs il := by
      refine ((List.forall₂_and_left _ _).mpr ⟨(createGroupingMap_eq hmap).2.2.2, List.forall₂_map_left_iff.mp hf⟩).imp ?_
      rintro grp r ⟨hgrp, k, a, hc, hr⟩
      match grp, hgrp with
      | [i], _ =>
        obtain ⟨x, rfl⟩ := ShapeOf.one (hsub k a hc _ r (GOK.one _) hr)
        exact Or.inl ⟨rfl, x, rfl⟩
      | i :: j :: rest, _ =>
        obtain ⟨rs, rfl, hrs⟩ := ShapeOf.many (hsub k a hc _ r (fun l hl => by cases hl; exact List.cons_ne_nil _ _) hr)
        exact Or.inr ⟨Nat.succ_succ_ne_one _, rs, rfl, hrs.trans (List.length_map _)⟩
    have := ungroupify_some_full hvalid hspos hcompat
    exact ⟨ho ▸ this.1, ho ▸ this.2⟩

theorem listCheck_full {α : Type} {cfg : LCfg} {sub : ℕ → α → GInput → M SubRes} {answers : List (List α)} {student : List String} {o : LOut}
    (hne : student ≠ [])
    (hcfg : ∀ al ∈ answers, (cfg.grouping = [] ∨ ∃ gs, createGroupingMap cfg.grouping = some gs) ∧
      ∀ k a, (if cfg.ordered then al[k]? = some a else (k = 0 ∧ a ∈ al)) → ∀ g r, GOK g → sub k a g = .ok r → ShapeOf g r)
    (h : listCheck cfg sub answers student = .ok o) : Full o student.length := by
  obtain ⟨al, hal, best, hpc, ho⟩ := listCheck_ok h
  obtain ⟨h1, h2⟩ := performCheck_full hne (hcfg al hal).1 (hcfg al hal).2 hpc
  rcases ho with ⟨rfl, -⟩ | ⟨-, rfl⟩
  · exact ⟨h1, h2⟩
  · refine ⟨by rw [List.length_map, h1], fun e he => ?_⟩
    obtain ⟨e0, he0, rfl⟩ := List.mem_map.mp he
    rw [Option.isSome_map]; exact h2 e0 he0

/-- the subgrader a ListGrader uses for position `k` (one for all positions, or one per position) -/
def subFor (subs : List STree) (k : ℕ) : Option STree := subs[if subs.length == 1 then 0 else k]?

theorem runAt_eq : ∀ (subs : List STree) (j : ℕ), runAt subs j = match subs[j]? with
    | some s => s.run
    | none => fun _ _ => throw (.py "IndexError" "no such subgrader")
  | [], _ => rfl
  | _ :: _, 0 => rfl
  | _ :: rest, j + 1 => runAt_eq rest j

mutual
/-- validly configured list grader together with its answers: an accepted grouping (or none); the answers handed to nested
    graders are again for validly configured graders -/
inductive ListOK : LTree → List (List UAny) → Prop
  | mk (cfg : LCfg) (subs : List STree) (answers : List (List UAny)) :
      (cfg.grouping = [] ∨ ∃ gs, createGroupingMap cfg.grouping = some gs) →
      (∀ al ∈ answers, ∀ k a, (if cfg.ordered then al[k]? = some a else (k = 0 ∧ a ∈ al)) → ∀ s, subFor subs k = some s → SubOK s a) →
      ListOK (.list cfg subs) answers
inductive SubOK : STree → UAny → Prop
  | item (t : ITree) (a : UAny) : SubOK (.item t) a
  -- vacuous case: a nested list grader handed item answers raises TypeError (`listAsSub`), so nothing is claimed of it
  | nestedItem (t : LTree) (l : List (Answer UExp)) : SubOK (.nested t) (.item l)
  | nested (t : LTree) (ls : List (List UAny)) : ListOK t ls → SubOK (.nested t) (.lists ls)
end

theorem tree_shape :
    (∀ (t : LTree) (answers : List (List UAny)) (student : List String) (out : LOut),
      ListOK t answers → student ≠ [] → t.check answers student = .ok out → Full out student.length) ∧
    (∀ (s : STree) (a : UAny) (g : GInput) (r : SubRes), SubOK s a → GOK g → s.run a g = .ok r → ShapeOf g r) := by
  refine LTree.induction (fun cfg subs ih answers student out hok hne h => ?_) (fun t a g r _ _ h => ?_)
    (fun t ih a g r hok hg h => ?_)
  · cases hok with
    | mk _ _ _ hgrp hsubs =>
      refine listCheck_full hne (fun al hal => ⟨hgrp, fun k a hcond g r hg hrun => ?_⟩) h
      obtain ⟨s, hs, hr⟩ := runAt_ok hrun
      exact ih s (List.mem_of_getElem? hs) a g r (hsubs al hal k a hcond s hs) hg hr
  · obtain ⟨l, s, x, rfl, rfl, -, rfl⟩ := itemAsSub_ok h
    trivial
  · obtain ⟨ls, l, o, rfl, rfl, ho, rfl⟩ := listAsSub_ok h
    cases hok with
    | nested _ _ hl =>
      obtain ⟨f1, f2⟩ := ih ls l o hl (hg l rfl) ho
      exact (List.filterMap_length_eq_length.mpr f2).trans f1

theorem LTree.check_full : ∀ (t : LTree) (answers : List (List UAny)) (student : List String) (out : LOut),
    ListOK t answers → student ≠ [] → t.check answers student = .ok out → Full out student.length :=
  tree_shape.1

theorem STree.run_shape : ∀ (s : STree) (a : UAny) (g : GInput) (r : SubRes), SubOK s a → GOK g → s.run a g = .ok r → ShapeOf g r :=
  tree_shape.2

theorem runAt_shape : ∀ (subs : List STree) (j : ℕ) (a : UAny) (g : GInput) (r : SubRes),
    (∀ s, subs[j]? = some s → SubOK s a) → GOK g → runAt subs j a g = .ok r → ShapeOf g r := by
  intro subs j a g r hs hg h
  obtain ⟨s, hsj, hr⟩ := runAt_ok h
  exact STree.run_shape s a g r (hs s hsj) hg hr

end Gr
