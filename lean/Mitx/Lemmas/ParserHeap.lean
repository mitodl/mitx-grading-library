import Mitx.Model.ParserHeap
/-! With `reset_storage` rebinding fresh objects, the object-level parser machine refines the value-level one: cached
expressions are never touched by later parses. -/
namespace PH
open C03 PS

structure WF (st : HSt) : Prop where
  scratch_lt : st.scratch < st.next
  cache_lt : ∀ k e, (k, e) ∈ st.cache → e.2 < st.next ∧ e.2 ≠ st.scratch

theorem WF.init : WF init := ⟨by decide, fun _ _ h => nomatch h⟩

theorem hget_hset_self (h : List (Nat × Sc)) (i : Nat) (v : Sc) : hget (hset h i v) i = v := by
  simp [hget, hset]
theorem hget_hset_ne {h : List (Nat × Sc)} {i j : Nat} {v : Sc} (hne : j ≠ i) : hget (hset h i v) j = hget h j := by
  have : (j == i) = false := by simpa using hne
  simp [hget, hset, List.lookup, this]

theorem lookup_map_snd {α β : Type} (f : α → β) (l : List (String × α)) (k : String) :
    (l.map (fun p => (p.1, f p.2))).lookup k = (l.lookup k).map f := by
  induction l with
  | nil => rfl
  | cons p ps ih =>
    obtain ⟨a, b⟩ := p
    simp only [List.map_cons, List.lookup_cons]
    cases h : (k == a) <;> simp [ih]

theorem mem_of_lookup {α : Type} {l : List (String × α)} {k : String} {v : α} (h : l.lookup k = some v) : (k, v) ∈ l := by
  obtain ⟨l₁, l₂, rfl, _⟩ := List.lookup_eq_some_iff.mp h
  exact List.mem_append_right _ (List.mem_cons_self ..)

/-- the state after `raw_parse` with the rebinding reset; `sc` is what the grammar left in the scratch object -/
def rebound (st : HSt) (sc : Sc) : HSt :=
  { st with heap := hset (hset st.heap st.scratch sc) st.next [], next := st.next + 1, scratch := st.next }

theorem rawParse_rebind_eq (st : HSt) (key : String) :
    rawParse .rebind st key = (rebound st (runOn (hget st.heap st.scratch) key).2,
      (runOn (hget st.heap st.scratch) key).1.map (fun t => (t, st.scratch))) := rfl

theorem ps_rawParse_eq (st : PS.St) (key : String) :
    PS.rawParse st key = ({ st with scratch := [] },
      (runOn st.scratch key).1.map (fun t => (t, (runOn st.scratch key).2))) := rfl

/-- rebinding touches no object a cached expression holds -/
theorem readExpr_rebound {st : HSt} (hw : WF st) (sc : Sc) {k : String} {e : T × Nat} (he : (k, e) ∈ st.cache) :
    readExpr (rebound st sc) e = readExpr st e := by
  obtain ⟨h1, h2⟩ := hw.cache_lt k e he
  simp only [readExpr, rebound, hget_hset_ne (Nat.ne_of_lt h1), hget_hset_ne h2]

/-- after the reset the observer sees the old cache and an empty scratch; the old scratch object holds `sc` and may be cached -/
theorem rebound_spec {st : HSt} (hw : WF st) (sc : Sc) :
    WF (rebound st sc) ∧ abs (rebound st sc) = { abs st with scratch := [] } ∧
      (st.scratch < st.next + 1 ∧ st.scratch ≠ st.next) ∧ hget (rebound st sc).heap st.scratch = sc := by
  have hne : st.scratch ≠ st.next := Nat.ne_of_lt hw.scratch_lt
  refine ⟨⟨Nat.lt_succ_self _, fun k e he => ?_⟩, ?_, ⟨Nat.lt_succ_of_lt hw.scratch_lt, hne⟩, ?_⟩
  · exact ⟨Nat.lt_succ_of_lt (hw.cache_lt k e he).1, Nat.ne_of_lt (hw.cache_lt k e he).1⟩
  · show PS.St.mk (st.cache.map _) (hget (hset _ st.next []) st.next) = ⟨st.cache.map _, []⟩
    rw [hget_hset_self, List.map_congr_left fun p hp => by rw [readExpr_rebound hw sc (k := p.1) hp]]
  · simp only [rebound, hget_hset_ne hne, hget_hset_self]

theorem WF.cons {st : HSt} (hw : WF st) (k : String) {e : T × Nat} (he : e.2 < st.next ∧ e.2 ≠ st.scratch) :
    WF { st with cache := (k, e) :: st.cache } :=
  ⟨hw.scratch_lt, fun k' e' h => by
    rcases List.mem_cons.mp h with h | h
    · cases h; exact he
    · exact hw.cache_lt k' e' h⟩

/-- one `parse` call: the object machine (rebinding reset) and the value machine stay in step -/
theorem parse_refines {st : HSt} (hw : WF st) (s : String) :
    WF (parse .rebind st s).1 ∧ abs (parse .rebind st s).1 = (PS.parse (abs st) s).1 ∧
      absOut (parse .rebind st s).1 (parse .rebind st s).2 = (PS.parse (abs st) s).2 := by
  unfold parse PS.parse
  have hl : (abs st).cache.lookup (stripSpaces s) = (st.cache.lookup (stripSpaces s)).map (readExpr st) :=
    lookup_map_snd (readExpr st) st.cache _
  cases hc : st.cache.lookup (stripSpaces s) with
  | some e => simp only [hl, hc, Option.map_some]; exact ⟨hw, trivial, rfl⟩
  | none =>
    simp only [hl, hc, Option.map_none]
    rw [rawParse_rebind_eq, ps_rawParse_eq, show (abs st).scratch = hget st.heap st.scratch from rfl]
    rcases runOn (hget st.heap st.scratch) (stripSpaces s) with ⟨_ | t, sc⟩ <;> obtain ⟨w, a, lt, r⟩ := rebound_spec hw sc
    · exact ⟨w, a, rfl⟩
    · refine ⟨w.cons _ lt, ?_, by simp only [Option.map_some, absOut, readExpr, r]⟩
      show PS.St.mk ((_, _, hget (rebound st sc).heap st.scratch) :: (abs (rebound st sc)).cache) (abs (rebound st sc)).scratch = _
      rw [r, a]; rfl

theorem history_refines {st : HSt} (hw : WF st) (h : List String) :
    WF (runHistory .rebind st h) ∧ abs (runHistory .rebind st h) = PS.runHistory (abs st) h := by
  induction h generalizing st with
  | nil => exact ⟨hw, rfl⟩
  | cons s h ih =>
    obtain ⟨w1, a1, _⟩ := parse_refines hw s
    obtain ⟨w2, a2⟩ := ih w1
    exact ⟨w2, by simp only [runHistory, PS.runHistory, List.foldl_cons] at a2 ⊢; rw [a2, a1]⟩

end PH
