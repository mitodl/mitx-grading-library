import Mitx.Lemmas.Except
import Mathlib.Data.List.Forall2
/-! `mapM` over a list, in `Except` and in `Option`: it returns exactly when the function returns on every element, and
    the results then stand in `Forall₂` relation to the list. -/
namespace List
variable {α β ε : Type}

theorem mapM_eq_ok_iff {f : α → Except ε β} {l : List α} {rs : List β} :
    l.mapM f = .ok rs ↔ Forall₂ (fun x r => f x = .ok r) l rs := by
  induction l generalizing rs with
  | nil => simp [Except.pure_eq_ok_iff, @eq_comm _ [] rs]
  | cons a l ih =>
    simp only [mapM_cons, Except.bind_eq_ok_iff, Except.pure_eq_ok_iff, ih, forall₂_cons_left_iff, exists_and_left,
      @eq_comm _ rs]

/-- a returning `mapM` over a list of length `n`, as a function on `Fin n` -/
theorem mapM_ok_ofFn {f : α → Except ε β} {l : List α} {n : Nat} (hl : l.length = n) {out : List β}
    (h : l.mapM f = .ok out) :
    ∃ g : Fin n → β, out = List.ofFn g ∧ ∀ i : Fin n, f (l[i.1]'(hl ▸ i.2)) = .ok (g i) := by
  subst hl
  obtain ⟨hlen, hg⟩ := List.forall₂_iff_get.mp (mapM_eq_ok_iff.mp h)
  refine ⟨fun i => out[i.1]'(hlen ▸ i.2), ?_, fun i => hg i.1 i.2 (hlen ▸ i.2)⟩
  exact List.ext_getElem (by simp only [hlen, List.length_ofFn]) fun i h1 h2 => by simp only [List.getElem_ofFn]

theorem mapM_error_iff (f : α → Except ε β) (l : List α) :
    (∃ e, l.mapM f = .error e) ↔ ∃ x ∈ l, ∃ e, f x = .error e := by
  induction l with
  | nil => exact ⟨nofun, nofun⟩
  | cons a l ih =>
    rw [mapM_cons, exists_mem_cons_iff, ← ih]
    rcases f a with e₁ | b
    · exact ⟨fun _ => Or.inl ⟨e₁, rfl⟩, fun _ => ⟨e₁, rfl⟩⟩
    · rcases l.mapM f with e₂ | bs
      · exact ⟨fun _ => Or.inr ⟨e₂, rfl⟩, fun _ => ⟨e₂, rfl⟩⟩
      · exact ⟨nofun, fun h => h.elim nofun nofun⟩

theorem mapM_eq_some_iff {f : α → Option β} {l : List α} {rs : List β} :
    l.mapM f = some rs ↔ Forall₂ (fun x r => f x = some r) l rs := by
  induction l generalizing rs with
  | nil => simp [@eq_comm _ [] rs]
  | cons a l ih =>
    simp only [mapM_cons, Option.bind_eq_bind, Option.bind_eq_some_iff, Option.pure_def, Option.some.injEq,
      ih, forall₂_cons_left_iff, exists_and_left, @eq_comm _ rs]

theorem Forall₂.mem_left {R : α → β → Prop} {l : List α} {rs : List β} (h : Forall₂ R l rs) :
    ∀ x ∈ l, ∃ r ∈ rs, R x r := by
  induction h with
  | nil => intro x hx; cases hx
  | cons h1 _ ih =>
    intro x hx
    rcases mem_cons.mp hx with rfl | hx
    · exact ⟨_, mem_cons_self, h1⟩
    · obtain ⟨r, hr, h⟩ := ih x hx; exact ⟨r, mem_cons_of_mem _ hr, h⟩

theorem Forall₂.mem_right {R : α → β → Prop} {l : List α} {rs : List β} (h : Forall₂ R l rs) :
    ∀ r ∈ rs, ∃ x ∈ l, R x r :=
  h.flip.mem_left

end List
