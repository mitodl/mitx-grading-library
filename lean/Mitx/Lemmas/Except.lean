/-! What a returning `do` block in the `Except` monad has done: after `unfold f`, `simp only` with the `_eq_ok_iff` lemmas
    turns `f … = .ok b` into the facts that made it return — a witness for every `x ← …`, `¬ c` for every
    `if c: raise …`. `ok_bind` and `throw_bind` run a block forwards, for the failure side. Core Lean only (Lemmas/Schema
    imports this, and its `simp` calls cost twice as much under Mathlib). -/
namespace Except
variable {ε α β : Type}

theorem bind_eq_ok_iff {x : Except ε α} {f : α → Except ε β} {b : β} :
    x >>= f = .ok b ↔ ∃ a, x = .ok a ∧ f a = .ok b := by
  cases x with
  | error e => exact ⟨nofun, fun ⟨_, h, _⟩ => nomatch h⟩
  | ok a => exact ⟨fun h => ⟨a, rfl, h⟩, fun ⟨_, h, hf⟩ => by cases h; exact hf⟩

theorem pure_eq_ok_iff {a b : α} : (pure a : Except ε α) = .ok b ↔ a = b := by
  simp [pure, Except.pure]

theorem map_eq_ok_iff {x : Except ε α} {f : α → β} {b : β} : x.map f = .ok b ↔ ∃ a, x = .ok a ∧ f a = b := by
  cases x with
  | error e => exact ⟨nofun, fun ⟨_, h, _⟩ => nomatch h⟩
  | ok a => exact ⟨fun h => ⟨a, rfl, Except.ok.inj h⟩, fun ⟨_, h, hf⟩ => by cases h; exact congrArg Except.ok hf⟩

theorem ok_bind (a : α) (f : α → Except ε β) : (.ok a >>= f) = f a := rfl
theorem throw_bind (e : ε) (f : α → Except ε β) : throw e >>= f = .error e := rfl

theorem guard_eq_ok_iff {c : Prop} [Decidable c] {e : ε} {x : Except ε β} {b : β} :
    (if c then .error e else x) = .ok b ↔ ¬ c ∧ x = .ok b := by
  by_cases h : c <;> simp [h]

theorem map_ite (f : α → β) (c : Prop) [Decidable c] (x y : Except ε α) :
    (if c then x else y).map f = if c then x.map f else y.map f := apply_ite _ _ _ _

theorem ite_bind (c : Prop) [Decidable c] (x y : Except ε α) (f : α → Except ε β) :
    (if c then x >>= f else y >>= f) = (if c then x else y) >>= f := (apply_ite (· >>= f) c x y).symm

theorem bind_pure_map (x : Except ε α) (f : α → β) : (x >>= fun a => pure (f a)) = x.map f := by
  cases x <;> rfl

end Except
