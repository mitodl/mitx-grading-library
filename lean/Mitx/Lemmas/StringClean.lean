import Mitx.Model.StringG
/-! `clean_input` touches only whitespace and case: the other characters survive, in order (`filter_*`); and what each step can
leave behind (`*_mem`, `collapse_*`). -/
namespace SG
open Gr (pyIsSpace)

def nonWs (c : Char) : Bool := !pyIsSpace c

theorem ws_space : pyIsSpace ' ' = true := by decide

theorem filter_cons_ws {x : Char} (h : pyIsSpace x = true) (l : List Char) : (x :: l).filter nonWs = l.filter nonWs := by
  simp [nonWs, h]

theorem filter_map_lc (lc : Char → Char) (hlc : ∀ c, pyIsSpace (lc c) = pyIsSpace c) (l : List Char) :
    (l.map lc).filter nonWs = (l.filter nonWs).map lc := by
  have : nonWs ∘ lc = nonWs := funext fun c => by simp [nonWs, hlc]
  rw [List.filter_map, this]

theorem filter_replace1 (a : Char) (ha : pyIsSpace a = true) (l : List Char) : (replace1 a l).filter nonWs = l.filter nonWs := by
  unfold replace1
  rw [filter_map_lc _ (fun c => by split <;> simp_all [ws_space])]
  refine (List.map_congr_left fun c hc => ?_).trans (List.map_id _)
  have : c ≠ a := fun h => by simp [nonWs, h, ha] at hc
  simp [this]

theorem filter_replace2 (a b : Char) (ha : pyIsSpace a = true) (hb : pyIsSpace b = true) (l : List Char) :
    (replace2 a b l).filter nonWs = l.filter nonWs := by
  induction l using replace2.induct a b with
  | case1 x y r hc ih =>
    obtain ⟨rfl, rfl⟩ : x = a ∧ y = b := by simpa using hc
    rw [replace2, if_pos hc, filter_cons_ws ws_space, filter_cons_ws ha, filter_cons_ws hb, ih]
  | case2 x y r hc ih => rw [replace2, if_neg hc, List.filter_cons, List.filter_cons, ih]
  | case3 l hl => rw [replace2]; exact hl

theorem filter_controls (l : List Char) : (controlsToSpaces l).filter nonWs = l.filter nonWs := by
  unfold controlsToSpaces
  rw [filter_replace1 _ (by decide), filter_replace1 _ (by decide), filter_replace2 _ _ (by decide) (by decide),
    filter_replace2 _ _ (by decide) (by decide), filter_replace1 _ (by decide)]

theorem filter_stripL (l : List Char) : (stripL l).filter nonWs = l.filter nonWs := by
  induction l with
  | nil => rfl
  | cons x xs ih =>
    unfold stripL at ih ⊢
    rw [List.dropWhile_cons]
    split
    · next h => rw [ih, filter_cons_ws h]
    · rfl

theorem filter_strip (l : List Char) : (strip l).filter nonWs = l.filter nonWs := by
  unfold strip
  rw [List.filter_reverse, filter_stripL, List.filter_reverse, List.reverse_reverse, filter_stripL]

theorem filter_noSpace (l : List Char) : (l.filter (· != ' ')).filter nonWs = l.filter nonWs := by
  rw [List.filter_filter]
  refine List.filter_congr fun c _ => ?_
  by_cases h : c = ' ' <;> simp [h, nonWs, ws_space]

theorem filter_collapse (l : List Char) : (collapse l).filter nonWs = l.filter nonWs := by
  induction l using collapse.induct with
  | case1 r ih => rw [collapse, ih]; exact (filter_cons_ws ws_space _).symm
  | case2 c r hne ih => rw [collapse, List.filter_cons, List.filter_cons, ih]; exact hne
  | case3 => rfl

theorem filter_ite {b : Bool} {g : List Char → List Char} (hg : ∀ l, (g l).filter nonWs = l.filter nonWs) (l : List Char) :
    (if b then g l else l).filter nonWs = l.filter nonWs := by
  split
  · exact hg l
  · rfl

theorem toNat_ofNat_small (m : Nat) (h : m < 0xd800) : (Char.ofNat m).toNat = m := by
  have hv : m.isValidChar := Or.inl h
  simp [Char.ofNat, hv, Char.toNat, Char.ofNatAux]
theorem not_ws_of_range (c : Char) (h : (33 ≤ c.toNat ∧ c.toNat ≤ 0x84) ∨ (0xa1 ≤ c.toNat ∧ c.toNat ≤ 0x167f)) : pyIsSpace c = false := by
  unfold pyIsSpace
  simp only [Bool.or_eq_false_iff, Bool.and_eq_false_iff, decide_eq_false_iff_not, beq_eq_false_iff_ne, ne_eq]
  omega
theorem lowerChar_ws (c : Char) : pyIsSpace (lowerChar c) = pyIsSpace c := by
  -- both ranges of capitals and their images 32 places up are free of whitespace
  have shift : (65 ≤ c.toNat ∧ c.toNat ≤ 90) ∨ (0xC0 ≤ c.toNat ∧ c.toNat ≤ 0xDE) →
      pyIsSpace (Char.ofNat (c.toNat + 32)) = pyIsSpace c := fun h => by
    have e := toNat_ofNat_small (c.toNat + 32) (by omega)
    rw [not_ws_of_range c (by omega), not_ws_of_range _ (by rw [e]; omega)]
  unfold lowerChar
  simp only
  split
  · next h => exact shift (.inl h)
  · split
    · next h => exact shift (.inr ⟨h.1, h.2.1⟩)
    · rfl

theorem replace1_mem {a : Char} {l : List Char} {x : Char} (h : x ∈ replace1 a l) : x = ' ' ∨ x ∈ l ∧ x ≠ a := by
  obtain ⟨c, hc, rfl⟩ := List.mem_map.mp h
  split
  · exact .inl rfl
  · next hne => exact .inr ⟨hc, by simpa using hne⟩

theorem replace2_mem {a b : Char} : ∀ {l : List Char} {x : Char}, x ∈ replace2 a b l → x = ' ' ∨ x ∈ l
  | [], _, h | [_], _, h => .inr h
  | x :: y :: r, z, h => by
    rw [replace2] at h
    split at h
    · rcases List.mem_cons.mp h with rfl | h
      · exact .inl rfl
      · exact (replace2_mem h).imp_right fun h => by simp [h]
    · rcases List.mem_cons.mp h with rfl | h
      · exact .inr List.mem_cons_self
      · exact (replace2_mem h).imp_right (List.mem_cons_of_mem _)

/-- what survives the first step: spaces, and characters of the input other than tab, CR, LF -/
theorem controlsToSpaces_mem {l : List Char} {x : Char} (h : x ∈ controlsToSpaces l) :
    x = ' ' ∨ x ∈ l ∧ x ≠ '\t' ∧ x ≠ '\r' ∧ x ≠ '\n' := by
  unfold controlsToSpaces at h
  rcases replace1_mem h with h | ⟨h, hn⟩; · exact .inl h
  rcases replace1_mem h with h | ⟨h, hr⟩; · exact .inl h
  rcases replace2_mem h with h | h; · exact .inl h
  rcases replace2_mem h with h | h; · exact .inl h
  rcases replace1_mem h with h | ⟨h, ht⟩; · exact .inl h
  exact .inr ⟨h, ht, hr, hn⟩

theorem collapse_mem {l : List Char} {x : Char} (h : x ∈ collapse l) : x ∈ l := by
  induction l using collapse.induct with
  | case1 r ih => rw [collapse] at h; exact List.mem_cons_of_mem _ (ih h)
  | case2 c r hne ih =>
    rw [collapse, List.mem_cons] at h
    · exact List.mem_cons.mpr (h.imp_right ih)
    · exact hne
  | case3 => exact h

theorem collapse_head? (l : List Char) : (collapse l).head? = l.head? := by
  induction l using collapse.induct with
  | case1 r ih => rw [collapse, ih]; rfl
  | case2 c r hne ih =>
    rw [collapse]
    · rfl
    · exact hne
  | case3 => rfl

theorem collapse_no_double (l : List Char) : ∀ (a b : List Char), collapse l ≠ a ++ ' ' :: ' ' :: b := by
  induction l using collapse.induct with
  | case1 r ih => rw [collapse]; exact ih
  | case2 c r hne ih =>
    intro a b h
    rw [collapse] at h
    · cases a with
      | nil =>
        -- `collapse r` begins with a space, so `r` does
        obtain ⟨rfl, h2⟩ := List.cons.inj h
        have := collapse_head? r
        rw [h2] at this
        cases r with
        | nil => cases this
        | cons d r' => cases this; exact hne r' rfl rfl
      | cons x a' => exact ih a' b (List.cons.inj h).2
    · exact hne
  | case3 => intro a b h; cases a <;> cases h
end SG
