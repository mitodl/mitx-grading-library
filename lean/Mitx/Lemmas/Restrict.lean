import Mitx.Model.Restrict
/-! What `pick` and the substring test of `Rs` return, and what its validators and scope checks return (these in namespace `C09`,
whose theorems use them). -/
namespace Rs
open C03

theorem mem_pick (k : Kind) (sc : Sc) (x : String) : x ∈ pick k sc ↔ (k, x) ∈ sc := by
  simp only [pick, List.mem_map, List.mem_filter, beq_iff_eq]
  constructor
  · rintro ⟨⟨_, _⟩, ⟨hp, rfl⟩, rfl⟩; exact hp
  · intro h; exact ⟨(k, x), ⟨h, rfl⟩, rfl⟩

theorem isPrefix_eq : ∀ n h : List Char, isPrefix n h = n.isPrefixOf h
  | [], _ => by simp [isPrefix]
  | _ :: _, [] => rfl
  | a :: as, b :: bs => by rw [isPrefix, isPrefix_eq as bs, List.isPrefixOf]

theorem isSubstr_iff_infix (n : List Char) : ∀ h, isSubstr n h = true ↔ n <:+: h
  | [] => by simp [isSubstr]
  | c :: r => by simp [isSubstr, isPrefix_eq, isSubstr_iff_infix n r, List.infix_cons_iff]

theorem mem_filter_pick {k : Kind} {ok : String → Bool} {sc : Sc} {x : String} :
    x ∈ (pick k sc).filter (fun v => !ok v) ↔ (k, x) ∈ sc ∧ ok x = false := by
  simp [mem_pick]

theorem filter_pick_eq_nil {k : Kind} {ok : String → Bool} {sc : Sc} :
    (pick k sc).filter (fun v => !ok v) = [] ↔ ∀ x, (k, x) ∈ sc → ok x = true := by
  simp [List.filter_eq_nil_iff, mem_pick]

end Rs

namespace C09
open Rs C03

theorem postEval_eq_none_iff {cfg : Cfg} {exprs used : List String} :
    postEval cfg exprs used = none ↔
      forbiddenUsed exprs cfg.forbidden = false ∧ (∀ f ∈ cfg.required, f ∈ used) ∧
      (∀ f ∈ used, isPermitted cfg.defaults cfg.whitelist cfg.blacklist cfg.userFuncs f = true) := by
  unfold postEval
  cases forbiddenUsed exprs cfg.forbidden
  · cases hr : cfg.required.find? (fun f => !used.contains f) with
    | some f =>
      have hf : f ∉ used := by simpa using List.find?_some hr
      exact iff_of_false (by simp) fun h => hf (h.2.1 f (List.mem_of_find?_eq_some hr))
    | none => simpa [List.isEmpty_iff] using fun _ => by simpa using hr
  · simp

theorem checkMath_credit {cfg : Cfg} {raw : At.Res} {exprs used : List String}
    (hc : raw.ok = .yes ∨ raw.ok = .part ∨ raw.grade > 0) :
    checkMath cfg raw exprs used = match postEval cfg exprs used with | some r => .error r | none => .ok raw :=
  if_pos hc

theorem refused_of_not_clean {cfg : Cfg} {raw : At.Res} {exprs used : List String}
    (hc : raw.ok = .yes ∨ raw.ok = .part ∨ raw.grade > 0) (h : postEval cfg exprs used ≠ none) :
    ∃ e, checkMath cfg raw exprs used = .error e := by
  rw [checkMath_credit hc]
  cases hp : postEval cfg exprs used with
  | some x => exact ⟨x, rfl⟩
  | none => exact absurd hp h

theorem checkScope_eq_none_iff {vars funcs sufs : String → Bool} {sc : Sc} :
    checkScope vars funcs sufs sc = none ↔
      (∀ x, (Kind.var, x) ∈ sc → vars x = true) ∧ (∀ x, (Kind.func, x) ∈ sc → funcs x = true) ∧
      (∀ x, (Kind.suf, x) ∈ sc → sufs x = true) := by
  simp only [← filter_pick_eq_nil, checkScope]
  generalize (pick .var sc).filter _ = bv
  generalize (pick .func sc).filter _ = bf
  generalize (pick .suf sc).filter _ = bs
  cases bv <;> cases bf <;> cases bs <;> simp

theorem instructor_and_sibling_hidden (sample instr sibs : List String) (v : String)
    (h : (v ∈ instr ∧ v ∈ sample) ∨ v ∈ sibs) : studentScope sample instr sibs v = false := by
  unfold studentScope
  rcases h with ⟨h1, h2⟩ | h
  · simp [h1, h2]
  · simp [h]

theorem sumScopeCheck_eq_none_iff {sample instr : List String} {funcs sufs : String → Bool} {asked : Entry → Bool}
    {dummy : String} {scl scu scb : Sc} :
    sumScopeCheck sample instr funcs sufs asked dummy scl scu scb = none ↔
      checkScope (entryScope sample instr asked .lower) funcs sufs scl = none ∧
      checkScope (entryScope sample instr asked .upper) funcs sufs scu = none ∧
      checkScope (bodyScope sample instr asked dummy) funcs sufs scb = none := by
  unfold sumScopeCheck
  cases checkScope (entryScope sample instr asked .lower) funcs sufs scl <;>
    cases checkScope (entryScope sample instr asked .upper) funcs sufs scu <;> simp

end C09
