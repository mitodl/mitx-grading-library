import Mitx.Model.ParserState
/-! The parser object of `Model/ParserState.lean`: what `parse` returns on a cache hit and on a miss, and the invariant
    that holds between calls, under which it answers like a fresh parser. -/
namespace PS
open C03

theorem rawParse_fst (st : St) (k : String) : (rawParse st k).1 = { st with scratch := [] } := rfl

theorem rawParse_of_empty {st : St} (h : st.scratch = []) (k : String) : (rawParse st k).2 = (rawParse init k).2 := by
  unfold rawParse init
  simp only [h]

theorem parse_hit {st : St} {s : String} {e : Expr} (hl : st.cache.lookup (stripSpaces s) = some e) :
    parse st s = (st, .ok e) := by
  unfold parse; simp only [hl]

theorem parse_miss {st : St} {s : String} (hl : st.cache.lookup (stripSpaces s) = none) :
    parse st s = match (rawParse st (stripSpaces s)).2 with
      | some e => ({ cache := (stripSpaces s, e) :: st.cache, scratch := [] }, .ok e)
      | none => ({ st with scratch := [] }, .unableToParse s) := by
  unfold parse; simp only [hl]
  have h1 := rawParse_fst st (stripSpaces s)
  generalize rawParse st (stripSpaces s) = p at h1 ⊢
  obtain ⟨st', r⟩ := p
  cases h1; cases r <;> rfl

end PS

namespace C10
open C03 PS

/-- invariant of the parser object between calls -/
structure Inv (st : St) : Prop where
  scratch_empty : st.scratch = []
  cache_fresh : ∀ k e, st.cache.lookup k = some e → (rawParse init k).2 = some e

theorem Inv.init : Inv init := ⟨rfl, fun _ _ h => nomatch h⟩

/-- in a state satisfying `Inv`, `parse` keeps `Inv` and returns what a fresh parser returns -/
theorem parse_of_inv {st : St} (hi : Inv st) (s : String) :
    Inv (parse st s).1 ∧ (parse st s).2 = (parse init s).2 := by
  rw [parse_miss (st := init) rfl]
  cases hl : st.cache.lookup (stripSpaces s) with
  | some e => rw [parse_hit hl, hi.cache_fresh _ _ hl]; exact ⟨hi, rfl⟩
  | none =>
    rw [parse_miss hl, rawParse_of_empty hi.scratch_empty]
    cases hr : (rawParse init (stripSpaces s)).2 with
    | none => exact ⟨⟨rfl, hi.cache_fresh⟩, rfl⟩
    | some e =>
      refine ⟨⟨rfl, fun k e' h => ?_⟩, rfl⟩
      rw [List.lookup_cons] at h
      cases hk : k == stripSpaces s <;> rw [hk] at h
      · exact hi.cache_fresh k e' h
      · cases h; rw [eq_of_beq hk, hr]

theorem inv_parse {st : St} (hi : Inv st) (s : String) : Inv (parse st s).1 := (parse_of_inv hi s).1

theorem Inv.history {st : St} (hi : Inv st) (h : List String) : Inv (runHistory st h) := by
  induction h generalizing st with
  | nil => exact hi
  | cons s h ih => exact ih (inv_parse hi s)

end C10
