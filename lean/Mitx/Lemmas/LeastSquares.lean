import Mitx.Model.Comparers
import Mathlib.Tactic.Linarith
import Mathlib.Tactic.Ring
import Mathlib.Tactic.FieldSimp
/-! The closed-form fit errors of `LinearComparer` (linear_comparer.py) are the least values of the squared residual
`Σ (a·xᵢ + b − yᵢ)²` over the lines `expected = a·student + b` of each mode's shape. `x` = student samples, `y` = expected
samples, as in the model. -/
namespace Cm

/-- squared residual of the relation `expected = a·student + b` on the samples -/
def resid2 (a b : Rat) (x y : List Rat) : Rat := sumL (zipW (fun p q => (a * p + b - q) * (a * p + b - q)) x y)

theorem sumL_nil : sumL [] = 0 := rfl
theorem sumL_cons (a : Rat) (l : List Rat) : sumL (a :: l) = a + sumL l := by
  rw [sumL, sumL, ← List.sum_eq_foldl, ← List.sum_eq_foldl, List.sum_cons]

theorem resid2_nonneg (a b : Rat) (x y : List Rat) : 0 ≤ resid2 a b x y := by
  unfold resid2
  induction x generalizing y with
  | nil => exact le_refl _
  | cons p ps ih =>
    cases y with
    | nil => exact le_refl _
    | cons q qs => rw [zipW, sumL_cons]; exact add_nonneg (mul_self_nonneg _) (ih qs)

theorem sumL_sq_nonneg (f : Rat → Rat) (x : List Rat) : 0 ≤ sumL (x.map fun p => f p * f p) := by
  induction x with
  | nil => exact le_refl _
  | cons p ps ih => rw [List.map_cons, sumL_cons]; exact add_nonneg (mul_self_nonneg _) ih

theorem sumL_cross_eq_zero (f g : Rat → Rat) : ∀ x y : List Rat, sumL (x.map fun p => f p * f p) = 0 →
    sumL (zipW (fun p q => f p * g q) x y) = 0 := by
  intro x
  induction x with
  | nil => intro y _; rfl
  | cons p ps ih =>
    intro y h0
    cases y with
    | nil => rfl
    | cons q qs =>
      rw [List.map_cons, sumL_cons, add_eq_zero_iff_of_nonneg (mul_self_nonneg _) (sumL_sq_nonneg f ps)] at h0
      rw [zipW, sumL_cons, ih qs h0.2, mul_self_eq_zero.mp h0.1, zero_mul, add_zero]

theorem sumL_zipW_sub : ∀ (x y : List Rat), x.length = y.length → sumL (zipW (fun a b => b - a) x y) = sumL y - sumL x := by
  intro x
  induction x with
  | nil => intro y h; cases y with
    | nil => simp [zipW, sumL]
    | cons _ _ => simp at h
  | cons p ps ih =>
    intro y h
    cases y with
    | nil => simp at h
    | cons q qs => simp only [zipW, sumL_cons, ih qs (Nat.succ.inj h)]; ring

/-- The squared residual in coordinates centred at `(c, d)`. With `c = d = 0` and `b = 0` it is the quadratic
`sxx a² − 2 sxy a + syy` in `a` (proportional). With `c`, `d` the means the fourth term vanishes and the last is a square that
the choice of `b` makes zero whatever `a` is (offset: `a = 1`); what is left is again a quadratic in `a` alone (linear). So
every mode comes down to `quad_least`. -/
theorem resid2_centred (c d a b : Rat) : ∀ x y : List Rat, x.length = y.length →
    resid2 a b x y =
      a * a * sumL (x.map fun p => (p - c) * (p - c))
      - 2 * a * sumL (zipW (fun p q => (p - c) * (q - d)) x y)
      + sumL (y.map fun q => (q - d) * (q - d))
      + 2 * (a * c + b - d) * (a * (sumL x - x.length * c) - (sumL y - x.length * d))
      + x.length * (a * c + b - d) * (a * c + b - d) := by
  intro x
  induction x with
  | nil => intro y h; cases y with
    | nil => simp [resid2, zipW, sumL]
    | cons _ _ => simp at h
  | cons p ps ih =>
    intro y h
    cases y with
    | nil => simp at h
    | cons q qs =>
      have := ih qs (Nat.succ.inj h)
      simp only [resid2, zipW, List.map_cons, sumL_cons, List.length_cons, Nat.cast_succ] at this ⊢
      rw [this]; ring

theorem quad_least {f : Rat → Rat} {p q r : Rat} (hf : ∀ t, f t = p * t * t - 2 * q * t + r) (hp : 0 ≤ p) (h0 : p = 0 → q = 0) :
    (∃ t, (if p = 0 then r else r - q * q / p) = f t) ∧ ∀ t, (if p = 0 then r else r - q * q / p) ≤ f t := by
  have key : ∀ t, f t = (if p = 0 then r else r - q * q / p) + p * ((t - q / p) * (t - q / p)) := by
    intro t
    rw [hf]
    split_ifs with hp0
    · rw [hp0, h0 hp0]; ring
    · field_simp; ring
  exact ⟨⟨q / p, by rw [key]; ring⟩, fun t => by rw [key t]; exact le_add_of_nonneg_right (mul_nonneg hp (mul_self_nonneg _))⟩

/-- `R` has the shape of `resid2` centred at the means (`resid2_means`); for `p = 0` the code falls back to the best line of
slope 1 -/
theorem centred_least {R : Rat → Rat → Rat} {n p q r m k : Rat}
    (hR : ∀ a b, R a b = (p * a * a - 2 * q * a + r) + n * ((a * m + b - k) * (a * m + b - k)))
    (hn : 0 ≤ n) (hp : 0 ≤ p) (h0 : p = 0 → q = 0) :
    ((∃ a b, (if p = 0 then R 1 (k - m) else r - q * q / p) = R a b) ∧
      ∀ a b, (if p = 0 then R 1 (k - m) else r - q * q / p) ≤ R a b) ∧
    ∀ b, R 1 (k - m) ≤ R 1 b := by
  have hb : ∀ a b, R a (k - a * m) ≤ R a b := fun a b => by
    rw [hR, hR, add_sub_cancel, sub_self, mul_zero, mul_zero, add_zero]
    exact le_add_of_nonneg_right (mul_nonneg hn (mul_self_nonneg _))
  obtain ⟨⟨t, ht⟩, hle⟩ := quad_least (f := fun a => R a (k - a * m)) (r := r) (fun a => by rw [hR]; ring) hp h0
  have e : (if p = 0 then R 1 (k - m) else r - q * q / p) = if p = 0 then r else r - q * q / p := by
    split_ifs with hp0
    · rw [hR, hp0, h0 hp0]; ring
    · rfl
  rw [e]
  exact ⟨⟨⟨t, _, ht⟩, fun a b => (hle a).trans (hb a b)⟩, fun b => by simpa using hb 1 b⟩

theorem equalsErr2_eq_resid2 (x y : List Rat) : equalsErr2 x y = resid2 1 0 x y := by
  unfold equalsErr2 resid2
  congr 2; funext p q; ring

theorem offsetErr2_eq_resid2 (x y : List Rat) :
    offsetErr2 x y = resid2 1 (sumL (zipW (fun a b => b - a) x y) / (x.length : Rat)) x y := by
  unfold offsetErr2 resid2
  simp only []
  congr 2; funext p q; ring

theorem resid2_means (x y : List Rat) (h : x.length = y.length) (hn : 0 < x.length) (a b : Rat) :
    resid2 a b x y =
      (sumL (x.map fun p => (p - sumL x / x.length) * (p - sumL x / x.length)) * a * a
        - 2 * sumL (zipW (fun p q => (p - sumL x / x.length) * (q - sumL y / x.length)) x y) * a
        + sumL (y.map fun q => (q - sumL y / x.length) * (q - sumL y / x.length)))
      + x.length * ((a * (sumL x / x.length) + b - sumL y / x.length) * (a * (sumL x / x.length) + b - sumL y / x.length)) := by
  have hn' : (x.length : Rat) ≠ 0 := by exact_mod_cast hn.ne'
  rw [resid2_centred (sumL x / x.length) (sumL y / x.length) a b x y h, mul_div_cancel₀ _ hn', mul_div_cancel₀ _ hn']
  ring

theorem linearErr2_offsetErr2_least (x y : List Rat) (h : x.length = y.length) (hn : 0 < x.length) :
    ((∃ a b, linearErr2 x y = resid2 a b x y) ∧ ∀ a b, linearErr2 x y ≤ resid2 a b x y) ∧
    ((∃ b, offsetErr2 x y = resid2 1 b x y) ∧ ∀ b, offsetErr2 x y ≤ resid2 1 b x y) := by
  simp only [linearErr2]
  rw [offsetErr2_eq_resid2, sumL_zipW_sub x y h, sub_div]
  obtain ⟨hl, ho⟩ := centred_least (resid2_means x y h hn) (Nat.cast_nonneg _) (sumL_sq_nonneg (· - sumL x / x.length) x)
    (sumL_cross_eq_zero (· - sumL x / x.length) (· - sumL y / x.length) x y)
  exact ⟨hl, ⟨_, rfl⟩, ho⟩

theorem propErr2_least (x y : List Rat) (h : x.length = y.length) :
    (∃ a, propErr2 x y = resid2 a 0 x y) ∧ ∀ a, propErr2 x y ≤ resid2 a 0 x y := by
  refine quad_least (fun a => ?_) (sumL_sq_nonneg id x) (sumL_cross_eq_zero id id x y)
  rw [resid2_centred 0 0 a 0 x y h]
  simp only [sub_zero]
  ring

end Cm
