import Mitx.Model.Globals
/-! The negative-power switch is always back at its default; `coerce` hands out only fresh identities and keeps the value. -/
namespace Gl

/-- by construction of the model: `withNP` ignores the flag the body leaves -/
theorem withNP_restores {α : Type} (v : Bool) (body : Bool → Bool × Beh α) (flag : Bool) :
    (withNP v body flag).1 = defaultNP := rfl

theorem bounds_mono {l : List Nat} {a b a' b' : Nat} (h : ∀ i ∈ l, a ≤ i ∧ i < b) (ha : a' ≤ a) (hb : b ≤ b') :
    ∀ i ∈ l, a' ≤ i ∧ i < b' :=
  fun i hi => ⟨Nat.le_trans ha (h i hi).1, Nat.lt_of_lt_of_le (h i hi).2 hb⟩

mutual
theorem coerce_bounds (n : Nat) : ∀ v : PV, n ≤ (coerce n v).1 ∧ ∀ i ∈ mutIds (coerce n v).2, n ≤ i ∧ i < (coerce n v).1
  | .atom _ => ⟨Nat.le_refl n, nofun⟩
  | .opaque _ => ⟨Nat.le_refl n, nofun⟩
  | .list _ items =>
    have h := coerceL_bounds (n + 1) items
    ⟨Nat.le_of_succ_le h.1, List.forall_mem_cons.mpr ⟨⟨Nat.le_refl n, h.1⟩, bounds_mono h.2 (Nat.le_succ n) (Nat.le_refl _)⟩⟩
  | .dict _ items =>
    have h := coerceD_bounds (n + 1) items
    ⟨Nat.le_of_succ_le h.1, List.forall_mem_cons.mpr ⟨⟨Nat.le_refl n, h.1⟩, bounds_mono h.2 (Nat.le_succ n) (Nat.le_refl _)⟩⟩
  | .tuple items => coerceL_bounds n items
theorem coerceL_bounds (n : Nat) : ∀ l : List PV, n ≤ (coerceL n l).1 ∧ ∀ i ∈ mutIdsL (coerceL n l).2, n ≤ i ∧ i < (coerceL n l).1
  | [] => ⟨Nat.le_refl n, nofun⟩
  | x :: xs =>
    have a := coerce_bounds n x
    have b := coerceL_bounds (coerce n x).1 xs
    ⟨Nat.le_trans a.1 b.1, List.forall_mem_append.mpr ⟨bounds_mono a.2 (Nat.le_refl n) b.1, bounds_mono b.2 a.1 (Nat.le_refl _)⟩⟩
theorem coerceD_bounds (n : Nat) : ∀ l : List (String × PV), n ≤ (coerceD n l).1 ∧ ∀ i ∈ mutIdsD (coerceD n l).2, n ≤ i ∧ i < (coerceD n l).1
  | [] => ⟨Nat.le_refl n, nofun⟩
  | (_, x) :: xs =>
    have a := coerce_bounds n x
    have b := coerceD_bounds (coerce n x).1 xs
    ⟨Nat.le_trans a.1 b.1, List.forall_mem_append.mpr ⟨bounds_mono a.2 (Nat.le_refl n) b.1, bounds_mono b.2 a.1 (Nat.le_refl _)⟩⟩
end

mutual
theorem coerce_shape (n : Nat) : ∀ v : PV, shape (coerce n v).2 = shape v
  | .atom _ => rfl
  | .opaque _ => rfl
  | .list _ items => congrArg (PV.list 0) (coerceL_shape (n + 1) items)
  | .dict _ items => congrArg (PV.dict 0) (coerceD_shape (n + 1) items)
  | .tuple items => congrArg PV.tuple (coerceL_shape n items)
theorem coerceL_shape (n : Nat) : ∀ l : List PV, shapeL (coerceL n l).2 = shapeL l
  | [] => rfl
  | x :: xs => by
    simp only [coerceL, shapeL]
    rw [coerce_shape n x, coerceL_shape _ xs]
theorem coerceD_shape (n : Nat) : ∀ l : List (String × PV), shapeD (coerceD n l).2 = shapeD l
  | [] => rfl
  | (k, x) :: xs => by
    simp only [coerceD, shapeD]
    rw [coerce_shape n x, coerceD_shape _ xs]
end

end Gl
