import Mitx.Model.Grade
import Mathlib.Tactic.Linarith
/-! Python's `max` on the model's lists (`maxRat`, `firstMaxBy`). -/
namespace Gr

theorem maxRat_none {l : List ℚ} (h : maxRat l = none) : l = [] := by
  cases l with
  | nil => rfl
  | cons x xs => rw [maxRat] at h; split at h <;> cases h

theorem maxRat_spec {l : List ℚ} {m : ℚ} (h : maxRat l = some m) : m ∈ l ∧ ∀ x ∈ l, x ≤ m := by
  induction l generalizing m with
  | nil => cases h
  | cons x xs ih =>
    rw [maxRat] at h
    split at h <;> cases h
    · next hm => rw [maxRat_none hm]; exact ⟨List.mem_singleton_self x, fun z hz => (List.mem_singleton.mp hz).le⟩
    · next y hm =>
      obtain ⟨hy, hall⟩ := ih hm
      split_ifs with hgt
      · exact ⟨List.mem_cons_of_mem _ hy, List.forall_mem_cons.mpr ⟨hgt.le, hall⟩⟩
      · exact ⟨List.mem_cons_self, List.forall_mem_cons.mpr ⟨le_rfl, fun z hz => (hall z hz).trans (not_lt.mp hgt)⟩⟩

theorem firstMaxBy_none {α : Type} (f : α → ℕ) {l : List α} (h : firstMaxBy f l = none) : l = [] := by
  cases l with
  | nil => rfl
  | cons x xs =>
    rw [firstMaxBy] at h
    split at h
    · cases h
    · split at h <;> cases h

theorem firstMaxBy_spec {α : Type} {f : α → ℕ} {l : List α} {r : α} (h : firstMaxBy f l = some r) :
    r ∈ l ∧ ∀ x ∈ l, f x ≤ f r := by
  induction l generalizing r with
  | nil => cases h
  | cons x xs ih =>
    rw [firstMaxBy] at h
    split at h
    · next hm =>
      cases h; rw [firstMaxBy_none f hm]
      exact ⟨List.mem_singleton_self x, fun z hz => List.mem_singleton.mp hz ▸ le_rfl⟩
    · next y hm =>
      obtain ⟨hy, hall⟩ := ih hm
      split at h <;> cases h
      · next hgt => exact ⟨List.mem_cons_of_mem _ hy, List.forall_mem_cons.mpr ⟨hgt.le, hall⟩⟩
      · next hgt => exact ⟨List.mem_cons_self, List.forall_mem_cons.mpr ⟨le_rfl, fun z hz => (hall z hz).trans (not_lt.mp hgt)⟩⟩

end Gr
