import Mitx.Lemmas.Depend
import Mitx.Lemmas.Rename
import Mitx.Model.EvalQ
/-! The DependentSampler whose `compute_sample` evaluates a parsed formula (`formulaDep`), and what C13 needs to show that
it is `Local`: its `depends` are the variables of the formula, and renaming by `id` changes nothing. -/
namespace Dp
open C03 EvQ

mutual
theorem mapVars_id : ∀ t : T, mapVars id t = t
  | .num _ _ => rfl
  | .var _ => rfl
  | .call f args => by simp only [mapVars, mapVarsL_id args]
  | .arr xs => by simp only [mapVars, mapVarsL_id xs]
  | .paren t => by simp only [mapVars, mapVars_id t]
  | .power b rest => by simp only [mapVars, mapVars_id b, mapVarsP_id rest]
  | .neg t => by simp only [mapVars, mapVars_id t]
  | .par a rest => by simp only [mapVars, mapVars_id a, mapVarsL_id rest]
  | .prod a rest => by simp only [mapVars, mapVars_id a, mapVarsP_id rest]
  | .sum l a rest => by simp only [mapVars, mapVars_id a, mapVarsP_id rest]
theorem mapVarsL_id : ∀ ts : List T, mapVarsL id ts = ts
  | [] => rfl
  | t :: ts => by simp only [mapVarsL, mapVars_id t, mapVarsL_id ts]
theorem mapVarsP_id : ∀ ps : List (Bool × T), mapVarsP id ps = ps
  | [] => rfl
  | (b, t) :: ps => by simp only [mapVarsP, mapVars_id t, mapVarsP_id ps]
end

/-- the evaluator over a sample dictionary whose values may themselves be failures -/
def depAlg (env : Dict QV) : Alg QV :=
  (alg ⟨[], []⟩).withVar (fun s => (env.get s).getD (.err "undef-var"))

/-- the variables reported for a parsed formula (`variables_used`) -/
def varNames (t : T) : List String := (names t).filterMap (fun p => if p.1 == Kind.var then some p.2 else none)

theorem mem_varNames {t : T} {s : String} : s ∈ varNames t ↔ (Kind.var, s) ∈ names t := by
  unfold varNames
  simp only [List.mem_filterMap]
  constructor
  · rintro ⟨p, hp, h⟩
    split at h
    · next hk => simp only [Option.some.injEq] at h; subst h
                 have : p.1 = Kind.var := by simpa using hk
                 rw [← this]; exact hp
    · cases h
  · intro h; exact ⟨(Kind.var, s), h, by simp⟩

/-- a DependentSampler given by a formula: `depends` = the variables the parser reports, `compute_sample` = evaluation -/
def formulaDep (name : String) (t : T) : Dep QV := { name := name, deps := varNames t, eval := fun env => evalT (depAlg env) t }

end Dp
