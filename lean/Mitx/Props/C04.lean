import Mitx.Lemmas.Tol
/-! # C04 — a formula is correct exactly when enough samples agree within tolerance

Model: `Mitx/Model/Tol.lean`. The per-sample values (author's and student's evaluation on the same sample) are inputs:
evaluating the formulas is outside this model. -/
namespace C04
open Tl At

/-- absolute tolerance on real scalars: `|expected − student| ≤ t`, boundary included -/
theorem withinTol_abs_real (a b t : Rat) :
    withinTol (.num ⟨a, 0⟩) (.num ⟨b, 0⟩) (.abs t) = some true ↔ 0 ≤ t ∧ |a - b| ≤ t := by
  simp only [withinTol, leTol, C.sub, C.sq, sub_self, mul_zero, add_zero, Option.some.injEq, Bool.and_eq_true, decide_eq_true_eq]
  exact and_congr_right fun h0 => sq_le_sq_iff_abs h0

/-- percentage tolerance on real scalars is relative to the **first** argument (the author's value) -/
theorem withinTol_pct_real (a b r : Rat) :
    withinTol (.num ⟨a, 0⟩) (.num ⟨b, 0⟩) (.pct r) = some true ↔ 0 ≤ r ∧ |a - b| ≤ r * |a| := by
  simp only [withinTol, leTol, C.sub, C.sq, sub_self, mul_zero, add_zero, Option.some.injEq, Bool.and_eq_true, decide_eq_true_eq]
  refine and_congr_right fun h0 => ?_
  rw [← sq_le_sq_iff_abs (mul_nonneg h0 (abs_nonneg a)), mul_mul_mul_comm r |a|, abs_mul_abs_self, mul_comm (r * r)]

/-- complex scalars: the modulus of the difference against `t` resp. `r·|expected|` (on squares) -/
theorem withinTol_complex (a b : C) (tol : Tolerance) :
    withinTol (.num a) (.num b) tol = some (leTol (a.sub b).sq a.sq tol) := rfl

/-- arrays of one shape: the Frobenius norm of the difference, relative to the Frobenius norm of the expected array -/
theorem withinTol_frobenius (s : List Nat) (e1 e2 : List C) (tol : Tolerance) (h : e1.length = e2.length) :
    withinTol (.arr s e1) (.arr s e2) tol = some (leTol (sqnorm (subL e1 e2)) (sqnorm e1) tol) := by
  simp [withinTol, h]

/-- an infinite value matches only the same infinity, whatever the tolerance -/
theorem withinTol_inf (x y : Val) (tol : Tolerance) (hx : x.isScalar = true) (hy : y.isScalar = true)
    (hinf : x.isInf = true ∨ y.isInf = true) : withinTol x y tol = some (decide (x = y)) := by
  cases x <;> cases y <;> simp_all [withinTol, Val.isScalar, Val.isInf]

/-- identical values are always within any (validated, hence non-negative) tolerance, including 0 -/
theorem withinTol_refl (x : Val) (tol : Tolerance) (ht : tol.nonneg) : withinTol x x tol = some true := by
  cases x with
  | pinf => simp [withinTol]
  | ninf => simp [withinTol]
  | num a =>
    have : (a.sub a).sq = 0 := by simp [C.sub, C.sq]
    rw [withinTol, this, leTol_zero ht a.sq_nonneg]
  | arr s es => simp [withinTol, sqnorm_subL_self, leTol_zero ht (sqnorm_nonneg es)]

theorem mapM_const {α β : Type} {f : α → Option β} {b : β} {l : List α} (h : ∀ a ∈ l, f a = some b) :
    l.mapM f = some (l.map fun _ => b) :=
  List.mapM_eq_some_iff.mpr (List.forall₂_map_right_iff.mpr (List.forall₂_same.mpr h))

theorem failures_const (b : Bool) (l : List α) : failures (l.map fun _ => b) = if b then 0 else l.length := by
  cases b <;> simp [failures]

/-- **Identical rewritings earn the answer's full credit**: if the student's value equals the author's at every
sample, the answer's result is returned, for every tolerance (0 included), sample count and `failable_evals` -/
theorem identical_full_credit (samples : List (Val × Val)) (tol : Tolerance) (answer : Res) (fe : Nat)
    (ht : tol.nonneg) (hid : ∀ p ∈ samples, p.2 = p.1) : formulaGrade samples tol answer fe = some answer := by
  have hp : passes (samples.map fun _ => true) fe := by
    unfold passes; rw [failures_const]; split <;> simp
  rw [formulaGrade, mapM_const (b := true) fun p hp => by rw [hid p hp]; exact withinTol_refl _ _ ht]
  simp only [consolidate_iff, if_pos hp]

/-- **Missing at every sample never earns credit** — provided `failable_evals` is smaller than the number of samples
(with `failable_evals ≥ samples ≥ 2` the "exactly when" clause of the property itself awards credit: see
`all_miss_credit_when_failable_ge_samples`) -/
theorem all_miss_zero (samples : List (Val × Val)) (tol : Tolerance) (answer : Res) (fe : Nat)
    (hne : samples ≠ []) (hfe : samples.length = 1 ∨ fe < samples.length)
    (hmiss : ∀ p ∈ samples, withinTol p.1 p.2 tol = some false) :
    formulaGrade samples tol answer fe = some { ok := .no, grade := 0, msg := "" } := by
  have hpos : 0 < samples.length := List.length_pos_iff.mpr hne
  have hp : ¬ passes (samples.map fun _ => false) fe := by
    unfold passes; rw [failures_const, List.length_map]; split <;> simp <;> omega
  rw [formulaGrade, mapM_const hmiss]
  simp only [consolidate_iff, if_neg hp]

/-- the recorded hypothesis H1 (DESIGN §7): with `failable_evals ≥ samples ≥ 2` every formula passes -/
theorem all_miss_credit_when_failable_ge_samples (vs : List Bool) (answer : Res) (fe : Nat)
    (h2 : 2 ≤ vs.length) (hfe : vs.length ≤ fe) :
    consolidateResults (vs.map (sampleResult answer.grade)) answer fe = answer := by
  have hf : failures vs ≤ vs.length := List.length_filter_le _ _
  have hp : passes vs fe := by unfold passes; split <;> omega
  rw [consolidate_iff, if_pos hp]

example : withinTol (.num ⟨10, 0⟩) (.num ⟨9, 0⟩) (.pct (1/10)) = some true ∧
    withinTol (.num ⟨9, 0⟩) (.num ⟨10, 0⟩) (.pct (1/10)) = some false ∧
    withinTol (.num ⟨1, 0⟩) (.num ⟨5/4, 0⟩) (.abs (1/4)) = some true ∧
    withinTol .pinf .pinf (.abs 0) = some true ∧ withinTol .pinf .ninf (.pct 1) = some false ∧
    withinTol (.num ⟨1, 0⟩) .pinf (.pct 1) = some false := by
  decide +kernel

example : formulaGrade [(.num ⟨1, 0⟩, .num ⟨1, 0⟩), (.num ⟨2, 0⟩, .num ⟨3, 0⟩), (.num ⟨-1, 0⟩, .num ⟨1, 0⟩)]
    (.abs 0) ⟨.part, 1/2, "fb"⟩ 2 = some ⟨.part, 1/2, "fb"⟩ ∧
  formulaGrade [(.num ⟨1, 0⟩, .num ⟨1, 0⟩), (.num ⟨2, 0⟩, .num ⟨3, 0⟩), (.num ⟨-1, 0⟩, .num ⟨1, 0⟩)]
    (.abs 0) ⟨.part, 1/2, "fb"⟩ 1 = some ⟨.no, 0, ""⟩ := by
  decide +kernel

end C04
