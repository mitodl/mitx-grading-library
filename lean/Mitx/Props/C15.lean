import Mitx.Generated.MathFuncs
import Mitx.Model.FuncTables
import Mitx.Model.Domain
import Mathlib.Analysis.SpecialFunctions.Trigonometric.Arctan
import Mathlib.Analysis.SpecialFunctions.Trigonometric.Inverse
/-! # C15 — built-in functions and constants agree with their mathematical definitions

The library's derived functions are **regenerated from mathfuncs.py** on every run (`Mitx/Generated/MathFuncs.lean`, `GenMF`),
so an edit of a formula there breaks the corresponding proof here. numpy primitives are Mathlib's real functions where
Mathlib has them, and parameters (with the stated inverse property) otherwise. The decorator / arity logic is the hand model `Dm`. -/
namespace C15
open Real GenMF

theorem sec_mul_cos (x : ℝ) (h : cos x ≠ 0) : sec x * cos x = 1 := one_div_mul_cancel h
theorem csc_mul_sin (x : ℝ) (h : sin x ≠ 0) : csc x * sin x = 1 := one_div_mul_cancel h
theorem cot_mul_tan (x : ℝ) (h : tan x ≠ 0) : GenMF.cot x * tan x = 1 := one_div_mul_cancel h
theorem sech_mul_cosh (x : ℝ) : sech x * cosh x = 1 := one_div_mul_cancel (cosh_pos x).ne'
theorem csch_mul_sinh (x : ℝ) (h : sinh x ≠ 0) : csch x * sinh x = 1 := one_div_mul_cancel h
theorem coth_mul_tanh (x : ℝ) (h : tanh x ≠ 0) : coth x * tanh x = 1 := one_div_mul_cancel h

/-- every reciprocal function is `1 / g` and its inverse `ginv (1 / x)`, `ginv` the inverse of the base function `g` -/
theorem reciprocal_inverse {g ginv : ℝ → ℝ} {x : ℝ} (h : g (ginv (1 / x)) = 1 / x) : 1 / g (ginv (1 / x)) = x := by
  rw [h, one_div_one_div]

/-- `arccot x = arctan (1/x)` for `x ≠ 0`: the principal branch with range `(−π/2, π/2]` -/
theorem arccot_spec {x : ℝ} (hx : x ≠ 0) : arccot x = arctan x⁻¹ := by
  unfold arccot
  rcases lt_or_gt_of_ne hx with h | h
  · rw [if_pos h, arctan_inv_of_neg h]; ring
  · rw [if_neg (not_lt.mpr h.le), arctan_inv_of_pos h]

theorem cot_arccot {x : ℝ} (hx : x ≠ 0) : GenMF.cot (arccot x) = x := by
  rw [arccot_spec hx, ← one_div]
  exact reciprocal_inverse (tan_arctan _)

theorem arccot_zero : arccot 0 = π / 2 := by
  rw [arccot, if_neg (lt_irrefl 0), arctan_zero, sub_zero]

theorem arccot_range (x : ℝ) : -(π / 2) < arccot x ∧ arccot x ≤ π / 2 := by
  by_cases hx : x = 0
  · rw [hx, arccot_zero]
    exact ⟨neg_lt_self (half_pos pi_pos), le_rfl⟩
  · rw [arccot_spec hx]; exact ⟨neg_pi_div_two_lt_arctan _, (arctan_lt_pi_div_two _).le⟩

theorem abs_one_div_le_one {x : ℝ} (hx : 1 ≤ |x|) : -1 ≤ 1 / x ∧ 1 / x ≤ 1 := by
  rw [← abs_le, abs_one_div]
  exact div_le_one_of_le₀ hx (abs_nonneg x)

theorem sec_arcsec {x : ℝ} (hx : 1 ≤ |x|) : sec (arcsec x) = x :=
  reciprocal_inverse (cos_arccos (abs_one_div_le_one hx).1 (abs_one_div_le_one hx).2)

theorem arcsec_range (x : ℝ) : 0 ≤ arcsec x ∧ arcsec x ≤ π := ⟨arccos_nonneg _, arccos_le_pi _⟩

theorem csc_arccsc {x : ℝ} (hx : 1 ≤ |x|) : csc (arccsc x) = x :=
  reciprocal_inverse (sin_arcsin (abs_one_div_le_one hx).1 (abs_one_div_le_one hx).2)

theorem arccsc_range (x : ℝ) : -(π / 2) ≤ arccsc x ∧ arccsc x ≤ π / 2 := ⟨neg_pi_div_two_le_arcsin _, arcsin_le_pi_div_two _⟩

theorem sech_arcsech (arccosh : ℝ → ℝ) (x : ℝ) (hx : x ≠ 0) (hprim : cosh (arccosh (1 / x)) = 1 / x) :
    sech (arcsech arccosh x) = x :=
  reciprocal_inverse hprim

theorem csch_arccsch (arcsinh : ℝ → ℝ) (x : ℝ) (hx : x ≠ 0) (hprim : sinh (arcsinh (1 / x)) = 1 / x) :
    csch (arccsch arcsinh x) = x :=
  reciprocal_inverse hprim

theorem coth_arccoth (arctanh : ℝ → ℝ) (x : ℝ) (hx : x ≠ 0) (hprim : tanh (arctanh (1 / x)) = 1 / x) :
    coth (arccoth arctanh x) = x :=
  reciprocal_inverse hprim

/-- the documented argument order: `arctan2(x, y)` is the primitive of (`y`, `x`) -/
theorem arctan2_argument_order (prim : ℝ → ℝ → ℝ) (x y : ℝ) (h : ¬ (x = 0 ∧ y = 0)) : arctan2' prim x y = some (prim y x) := by
  unfold arctan2'; simp [h]

theorem arctan2_origin_refused (prim : ℝ → ℝ → ℝ) : arctan2' prim 0 0 = none := by simp [arctan2']

theorem kronecker_spec (x y : ℝ) : kronecker x y = if x = y then 1 else 0 := rfl

/-- the tables read from the live module equal the documented ones: every default function is bound to the documented
primitive with the documented argument domain, constants and suffixes have their standard values -/
theorem tables_match : GenMF.funcTable = Mf.funcTable ∧ GenMF.constTable = Mf.constTable ∧ GenMF.suffixTable = Mf.suffixTable :=
  ⟨rfl, rfl, rfl⟩

open Dm

/-- **ArgumentError iff the count is wrong — checked first** (exact arity) -/
theorem decorator_count_first (shapes : List Spec) (args : List Arg) (h : shapes.length ≠ args.length) :
    decorated shapes none args = .error (.argument shapes.length args.length false) := by
  simp [decorated, h]

theorem decorator_min_length (shapes : List Spec) (m : Nat) (args : List Arg) (h : args.length < m) :
    decorated shapes (some m) args = .error (.argument m args.length true) := by
  simp [decorated, h]

theorem decorated_exact (shapes : List Spec) (args : List Arg) (h : shapes.length = args.length) :
    decorated shapes none args =
      if ∀ i < args.length, hasShape (shapes.getD i .scalar) (args.getD i .other) = true then .ok ()
      else .error (.argumentShape (((List.range args.length).filter
        fun i => !hasShape (shapes.getD i .scalar) (args.getD i .other)).map (· + 1))) := by
  simp only [decorated, h, ne_eq, not_true_eq_false, if_false, List.isEmpty_iff, List.filter_eq_nil_iff, List.mem_range,
    Bool.not_eq_true, Bool.not_eq_false']

/-- with the right count: the wrapped function is called iff every argument has its declared shape; otherwise an
ArgumentShapeError lists exactly the offending positions -/
theorem decorator_shape_spec (shapes : List Spec) (args : List Arg) (h : shapes.length = args.length) :
    (decorated shapes none args = .ok () ↔ ∀ i < args.length, hasShape (shapes.getD i .scalar) (args.getD i .other) = true) ∧
    (∀ bad, decorated shapes none args = .error (.argumentShape bad) →
      ∀ k, k ∈ bad ↔ 1 ≤ k ∧ k ≤ args.length ∧ hasShape (shapes.getD (k - 1) .scalar) (args.getD (k - 1) .other) = false) := by
  rw [decorated_exact shapes args h]
  split
  · exact ⟨iff_of_true rfl ‹_›, fun _ hb => nomatch hb⟩
  · refine ⟨iff_of_false nofun ‹_›, fun bad hb k => ?_⟩
    cases hb
    simp only [List.mem_map, List.mem_filter, List.mem_range, Bool.not_eq_eq_eq_not, Bool.not_true]
    constructor
    · rintro ⟨i, ⟨hi, hs⟩, rfl⟩
      exact ⟨Nat.le_add_left 1 i, hi, hs⟩
    · rintro ⟨h1, h2, hs⟩
      exact ⟨k - 1, ⟨Nat.sub_one_lt_of_le h1 h2, hs⟩, Nat.sub_add_cancel h1⟩

/-- scalar arguments are numbers or one-element arrays; vectors, matrices and other objects are refused -/
theorem scalar_shape_spec (a : Arg) : hasShape .scalar a = true ↔ a = .number ∨ ∃ s, a = .array s ∧ size s = 1 := by
  cases a <;> simp [hasShape]

theorem square_shape_spec (a : Arg) : hasShape .square a = true ↔ ∃ r, a = .array [r, r] := by
  cases a with
  | number => simp [hasShape]
  | other => simp [hasShape]
  | array s =>
    simp only [hasShape, Bool.and_eq_true, beq_iff_eq, Arg.array.injEq]
    constructor
    · rintro ⟨hl, he⟩
      match s, hl with
      | [a, b], _ => exact ⟨a, by rw [show a = b from he]⟩
    · rintro ⟨r, rfl⟩; exact ⟨rfl, rfl⟩

/-- functions that do not validate themselves are called only with the number of arguments they declare -/
theorem eval_function_arity (expected received : Nat) :
    evalFunctionArity false expected received = .ok () ↔ expected = received := by
  unfold evalFunctionArity
  by_cases h : expected = received <;> simp [h]

example : decorated [.scalar, .scalar] none [.number, .array [3]] = .error (.argumentShape [2]) := by decide
example : decorated [.scalar] (some 2) [.number] = .error (.argument 2 1 true) := by decide
example : decorated [.shape [3], .shape [3]] none [.array [3], .array [3]] = .ok () := by decide

end C15
