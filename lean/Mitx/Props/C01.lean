import Mitx.Props.C07
import Mathlib.Algebra.Order.Field.Basic
/-! # C01 — every grader call returns a well-formed, self-consistent edX result

Model: `Gr.call` (`AbstractGrader.__call__`), on top of `Gr.itemCheck`, `Gr.processGradeList`, `Gr.listCheck`.
The leaf graders' `check_response` is a parameter; its contract (`WF` and `OkConsistent` below; `Gr.Good` of Lemmas/Tree puts them together) is a hypothesis of the theorems. -/
namespace C01
open Gr At

/-- the grade is in `[0,1]` -/
def WF (r : IRes) : Prop := 0 ≤ r.grade ∧ r.grade ≤ 1
/-- `ok` is the one computed from the grade (the unpinned case; an author-pinned `ok` on a grade-1 answer is the only
    exception the property allows) -/
def OkConsistent (r : IRes) : Prop := r.ok = gradeToOk r.grade
def WFRes (r : At.Res) : Prop := 0 ≤ r.grade ∧ r.grade ≤ 1

theorem itemCheck_wf {ε : Type} {cr : AnsMeta → ε → String → M IRes} {w : String} {answers : List (Answer ε)} {inp : String} {out : IRes}
    (hleaf : ∀ m e r, cr m e inp = .ok r → WF r) (h : itemCheck cr w answers inp = .ok out) : WF out := by
  obtain ⟨p, -, r, hr, -, hg⟩ := itemCheck_mem h
  unfold WF; rw [hg]; exact hleaf _ _ _ hr

/-- `consolidate_grades` lands in `[0,1]` whenever the individual grades are at most 1 and something is expected -/
theorem consolidateGrades_range (l : List ℚ) (n : ℕ) (hn : 0 < n) (h1 : ∀ x ∈ l, x ≤ 1) :
    0 ≤ consolidateGrades l n ∧ consolidateGrades l n ≤ 1 := by
  rw [C07.consolidateGrades_formula]
  refine ⟨le_max_left _ _, max_le zero_le_one ?_⟩
  have hs : l.sum ≤ l.length := by simpa only [nsmul_eq_mul, mul_one] using List.sum_le_card_nsmul l 1 h1
  have : (l.length : ℚ) ≤ ((l.length - n : ℕ) : ℚ) + n := (Nat.cast_le.mpr le_tsub_add).trans_eq (Nat.cast_add ..)
  rw [div_le_one (Nat.cast_pos.mpr hn)]
  exact sub_le_iff_le_add'.mpr (hs.trans this)

theorem processGradeList_wf (cfg : SLCfg) (gl : List IRes) (n : ℕ) (m : AnsMeta) (hn : 0 < n)
    (hgl : ∀ r ∈ gl, r.grade ≤ 1) (hm0 : 0 ≤ m.grade) (hm1 : m.grade ≤ 1) :
    WF (processGradeList cfg gl n m) ∧ OkConsistent (processGradeList cfg gl n m) := by
  obtain ⟨hg, hok, _, _⟩ := C07.processGradeList_spec cfg gl n m
  obtain ⟨c0, c1⟩ := consolidateGrades_range (gl.map (·.grade)) n hn (by
    intro x hx; obtain ⟨r, hr, rfl⟩ := List.mem_map.mp hx; exact hgl r hr)
  refine ⟨?_, hok⟩
  unfold WF; rw [hg]; unfold C07.credit
  split
  · simp only [mul_zero, le_refl, zero_le_one, and_self]
  · exact ⟨mul_nonneg hm0 c0, mul_le_one₀ hm1 c0 c1⟩

theorem debug_noninterference (cfg : CallCfg) (hd : cfg.debug = false) (att : Option ℤ) (log₁ log₂ : String) (inp : GInput)
    (res : M CheckOut) : call cfg att log₁ inp res = call cfg att log₂ inp res := by
  unfold call; simp only [hd, Bool.false_eq_true, if_false]

def isSingle : At.Out → Bool
  | .single _ => true
  | .list _ _ => false

theorem formatMessages_appendLog_ok_grade (debug : Bool) (log : String) (o : At.Out) :
    isSingle (formatMessages (if debug = true then appendLog log o else o)) = isSingle o ∧
    (formatMessages (if debug = true then appendLog log o else o)).entries.map (fun r => (r.ok, r.grade)) =
      o.entries.map (fun r => (r.ok, r.grade)) := by
  cases debug <;> cases o <;> simp [formatMessages, appendLog, isSingle, At.Out.entries, Function.comp_def]

theorem applyAttempt_shape {s : ℤ → ℚ} {f : Bool} {a : Option ℤ} {o o' : At.Out} (h : applyAttempt s f a o = .ok o') :
    isSingle o' = isSingle o ∧ o'.entries.length = o.entries.length := by
  cases a with
  | none => cases h
  | some n =>
    simp only [applyAttempt] at h
    generalize round4 (s (if n < 1 then 1 else n)) = c at h
    by_cases hc : c = 1
    · rw [if_pos hc] at h; cases h; exact ⟨rfl, rfl⟩
    · rw [if_neg hc] at h
      cases o <;> cases h
      · exact ⟨rfl, rfl⟩
      · exact ⟨rfl, List.length_map _⟩

/-- the shape clause: single form for one input; list form with one entry per checked entry (all present) otherwise -/
def ShapeOK : CheckOut → At.Out → Prop
  | .single _, out => isSingle out = true ∧ out.entries.length = 1
  | .list o, out => isSingle out = false ∧ out.entries.length = o.entries.length ∧ o.entries.all Option.isSome = true

theorem shapeOK_transfer {r : CheckOut} {o1 out : At.Out} (h : ShapeOK r o1) (hs : isSingle out = isSingle o1)
    (hl : out.entries.length = o1.entries.length) : ShapeOK r out := by
  cases r with
  | single x => exact ⟨by rw [hs, h.1], by rw [hl, h.2]⟩
  | list o => exact ⟨by rw [hs, h.1], by rw [hl, h.2.1], h.2.2⟩

theorem stripKeys_shape {r : CheckOut} {o1 : At.Out} (hs : stripKeys r = some o1) : ShapeOK r o1 := by
  cases r with
  | single x => cases hs; exact ⟨rfl, rfl⟩
  | list o =>
    simp only [stripKeys] at hs
    split at hs
    · next hall =>
      cases hs
      refine ⟨rfl, List.filterMap_length_eq_length.mpr fun e he => ?_, hall⟩
      have := List.all_eq_true.mp hall e he
      cases e with
      | none => cases this
      | some v => rfl
    · cases hs

/-- **Shape.** A returned call has the single form for one input and the list form with exactly one entry per
    checked entry for a list of inputs. -/
theorem call_shape {cfg : CallCfg} {att : Option ℤ} {log : String} {inp : GInput} {res : M CheckOut} {out : At.Out}
    (h : call cfg att log inp res = .ok out) : ∃ r, res = .ok r ∧ ShapeOK r out := by
  obtain ⟨r, o1, o2, hr, hs, hsch, rfl⟩ := call_ok h
  obtain ⟨f1, f2⟩ := formatMessages_appendLog_ok_grade cfg.debug log o2
  have f2 := congrArg List.length f2
  rw [List.length_map, List.length_map] at f2
  have hsk : isSingle o2 = isSingle o1 ∧ o2.entries.length = o1.entries.length := by
    rcases hsch with ⟨-, rfl⟩ | ⟨s, -, ha⟩
    · exact ⟨rfl, rfl⟩
    · exact applyAttempt_shape ha
  exact ⟨r, hr, shapeOK_transfer (stripKeys_shape hs) (f1.trans hsk.1) (f2.trans hsk.2)⟩

/-- **Only library errors escape with debug off** (this is also C02's control-flow clause): whatever `check` raised,
    an error leaving `__call__` belongs to the library's family, provided the result had an entry for every input. -/
theorem call_escape_classes {cfg : CallCfg} {att : Option ℤ} {log : String} {inp : GInput} {res : M CheckOut} {e : Gr.Err}
    (hd : cfg.debug = false) (hent : ∀ o, res = .ok (.list o) → o.entries.all Option.isSome = true)
    (h : call cfg att log inp res = .error e) : ∃ cls msg, e = .mitx cls msg := by
  unfold call at h
  simp only [Except.throw_bind, pure_bind, hd, Bool.false_eq_true, if_false] at h
  rcases res with e0 | r <;> dsimp only at h
  · cases e0 <;> cases h <;> exact ⟨_, _, rfl⟩
  · have hs : ∃ o1, stripKeys r = some o1 := by
      cases r with
      | single x => exact ⟨_, rfl⟩
      | list o => simp only [stripKeys, hent o rfl, if_true]; exact ⟨_, rfl⟩
    obtain ⟨o1, hs⟩ := hs
    simp only [hs] at h
    cases hsch : cfg.sched with
    | none => simp only [hsch] at h; cases h
    | some s =>
      simp only [hsch] at h
      cases ha : applyAttempt s cfg.attemptMsg att o1 with
      | error e' => simp only [ha] at h; cases h; exact ⟨_, _, rfl⟩
      | ok o2 => simp only [ha] at h; cases h

/-- an anticipated (library) error keeps its class, with line breaks rendered as `<br/>`; an unanticipated one becomes the
    generic student-facing error naming exactly what was submitted -/
theorem call_error_mapping (cfg : CallCfg) (hd : cfg.debug = false) (att : Option ℤ) (log : String) (inp : GInput) (e0 : Gr.Err) :
    call cfg att log inp (.error e0) = .error (match e0 with
      | .mitx cls msg => .mitx cls (brMsg msg)
      | .py _ _ => .mitx "StudentFacingError" (genericMsg inp)) := by
  unfold call
  simp only [Except.throw_bind, hd, Bool.false_eq_true, if_false]
  cases e0 <;> rfl

end C01
