import Mitx.Lemmas.Check
/-! # C08 — among alternative answers the student always receives the best-scoring one

Model: `Gr.itemCheck` (`ItemGrader.check`), for an arbitrary `check_response` function `cr`. -/
namespace C08
open Gr

variable {ε : Type} (cr : AnsMeta → ε → String → M IRes) (w : String)

/-- **The grade is the maximum** credit the input earns against any single value of any single alternative. -/
theorem check_grade_is_max {answers : List (Answer ε)} {inp : String} {out : IRes}
    (h : itemCheck cr w answers inp = .ok out) :
    (∀ p ∈ expand answers, ∀ r, cr p.1 p.2 inp = .ok r → r.grade ≤ out.grade) ∧
    (∃ p ∈ expand answers, ∃ r, cr p.1 p.2 inp = .ok r ∧ r.grade = out.grade) := by
  obtain ⟨p, hp, c, hc, hmax, hout⟩ := itemCheck_ok h
  have hg : out.grade = c.grade := by rw [hout]; split <;> rfl
  exact ⟨fun q hq r hr => hg ▸ (hmax q hq r hr).1, p, hp, c, hc, hg.symm⟩

/-- **Order independence**: listing the alternatives in another order gives the same grade. -/
theorem check_order_independent {a₁ a₂ : List (Answer ε)} {inp : String} {o₁ o₂ : IRes} (hp : a₁.Perm a₂)
    (h₁ : itemCheck cr w a₁ inp = .ok o₁) (h₂ : itemCheck cr w a₂ inp = .ok o₂) : o₁.grade = o₂.grade := by
  obtain ⟨hle₁, p₁, hp₁, r₁, hr₁, hg₁⟩ := check_grade_is_max cr w h₁
  obtain ⟨hle₂, p₂, hp₂, r₂, hr₂, hg₂⟩ := check_grade_is_max cr w h₂
  have e : (expand a₁).Perm (expand a₂) := hp.flatMap_right _
  apply le_antisymm
  · rw [← hg₁]; exact hle₂ p₁ (e.subset hp₁) r₁ hr₁
  · rw [← hg₂]; exact hle₁ p₂ (e.symm.subset hp₂) r₂ hr₂

/-- **Longest message wins ties; wrong_msg exactly when the best grade is zero and no message applies.** -/
theorem check_message {answers : List (Answer ε)} {inp : String} {out : IRes}
    (h : itemCheck cr w answers inp = .ok out) :
    ∃ p ∈ expand answers, ∃ c, cr p.1 p.2 inp = .ok c ∧ c.grade = out.grade ∧
      (∀ q ∈ expand answers, ∀ r, cr q.1 q.2 inp = .ok r → r.grade = out.grade → r.msg.length ≤ c.msg.length) ∧
      ((c.msg = "" ∧ out.grade = 0) → out.msg = w) ∧ (¬(c.msg = "" ∧ out.grade = 0) → out.msg = c.msg) := by
  obtain ⟨p, hp, c, hc, hmax, hout⟩ := itemCheck_ok h
  have hg : out.grade = c.grade := by rw [hout]; split <;> rfl
  refine ⟨p, hp, c, hc, hg.symm, fun q hq r hr hgr => (hmax q hq r hr).2 (hgr.trans hg), fun hcnd => ?_, fun hn => ?_⟩
  · rw [hout, if_pos (hg ▸ hcnd)]
  · rw [hout, if_neg (hg ▸ hn)]

/-- **Raising**: with at least one (alternative, value) pair, `check` raises iff some alternative raises. -/
theorem check_raises_iff {answers : List (Answer ε)} {inp : String} (hne : expand answers ≠ []) :
    (∃ e, itemCheck cr w answers inp = .error e) ↔ ∃ p ∈ expand answers, ∃ e, cr p.1 p.2 inp = .error e := by
  have hans : ¬ answers.isEmpty = true := fun h => hne (by rw [List.isEmpty_iff.mp h]; rfl)
  rw [← List.mapM_error_iff, itemCheck, if_neg hans]
  cases hm : (expand answers).mapM (fun p => cr p.1 p.2 inp) with
  | error e => exact ⟨fun _ => ⟨e, rfl⟩, fun _ => ⟨e, rfl⟩⟩
  | ok results =>
    -- on a non-empty list of results the choice of the best one cannot fail
    refine ⟨?_, fun ⟨e, h⟩ => nomatch h⟩
    rintro ⟨e, h⟩
    exfalso
    have hrne : results ≠ [] := by
      rintro rfl; exact hne (List.forall₂_nil_right_iff.mp (List.mapM_eq_ok_iff.mp hm))
    rw [Except.ok_bind] at h
    cases hb : maxRat (results.map (·.grade)) with
    | none => exact hrne (List.map_eq_nil_iff.mp (maxRat_none hb))
    | some best =>
      obtain ⟨r, hr, hrg⟩ := List.mem_map.mp (maxRat_spec hb).1
      cases hc : firstMaxBy (fun r => r.msg.length) (results.filter (fun r => r.grade == best)) with
      | none =>
        have : r ∈ results.filter (fun r => r.grade == best) := List.mem_filter.mpr ⟨hr, decide_eq_true hrg⟩
        exact List.ne_nil_of_mem this (firstMaxBy_none _ hc)
      | some c => simp only [hb, hc] at h; cases h

/-- no alternatives at all is a configuration error -/
theorem empty_answers_config_error (inp : String) :
    itemCheck cr w [] inp = .error (Err.config "There is a problem with the author's problem configuration: Expected at least one answer in answers") := rfl

end C08
