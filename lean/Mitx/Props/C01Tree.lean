import Mitx.Lemmas.Tree
import Mitx.Lemmas.TreeShape
import Mitx.Lemmas.Interval
import Mitx.Props.C17
/-! # C01 — range and `ok` consistency for every grader tree, through the whole call

The inductions over grader trees (`Lemmas/Tree`, `Lemmas/TreeShape`) composed with the call wrapper, and the IntervalGrader. -/
namespace C01
open Gr At

/-- the C01 entry predicate on a returned entry -/
def ResGood (pin : Bool) (r : At.Res) : Prop := (0 ≤ r.grade ∧ r.grade ≤ 1) ∧ (pin = false → r.ok = gradeToOk r.grade)

/-- what the guarded `check` returned is good, entry by entry -/
def CheckGood (pin : Bool) : CheckOut → Prop
  | .single x => Good pin x
  | .list o => ∀ e ∈ o.entries, ∀ x, e = some x → Good pin x

/-- **Item grader trees**: table leaves and SingleListGraders nested to any depth -/
theorem item_tree_good (pin : Bool) (t : ITree) (ht : t.TabsWF) {ans : List (Answer UExp)} {inp : String} {out : IRes}
    (ha : AnsWF pin ans) (h : t.check ans inp = .ok out) : Good pin out :=
  ITree.check_good pin t ht ans inp out ha h

/-- **List grader trees**: ordered or unordered, grouped, nested to any depth, over item grader trees -/
theorem list_tree_good (pin : Bool) (t : LTree) (ht : t.TabsWF) {answers : List (List UAny)} {student : List String} {out : LOut}
    (ha : ∀ al ∈ answers, ∀ a ∈ al, AnyWF pin a) (h : t.check answers student = .ok out) :
    ∀ e ∈ out.entries, ∀ r, e = some r → Good pin r :=
  LTree.check_good pin t ht answers student out ha h

theorem stripKeys_good {pin : Bool} {r : CheckOut} {o1 : At.Out} (hg : CheckGood pin r) (hs : stripKeys r = some o1) :
    ∀ q ∈ o1.entries, ResGood pin q := by
  cases r with
  | single x => cases hs; exact List.forall_mem_singleton.mpr hg
  | list o =>
    simp only [stripKeys] at hs
    split at hs <;> cases hs
    intro q hq
    obtain ⟨e, he, heq⟩ := List.mem_filterMap.mp hq
    cases e <;> cases heq
    exact hg _ he _ rfl

theorem applyAttempt_good {pin : Bool} {s : ℤ → ℚ} {flag : Bool} {att : Option ℤ} {o1 o2 : At.Out}
    (hc : ∀ n, 0 ≤ C17.creditOf s n ∧ C17.creditOf s n ≤ 1)
    (h1 : ∀ q ∈ o1.entries, ResGood pin q) (h : applyAttempt s flag att o1 = .ok o2) : ∀ q ∈ o2.entries, ResGood pin q := by
  cases att with
  | none => cases h
  | some n =>
    by_cases hone : C17.creditOf s n = 1
    · rw [C17.apply_identity_when_credit_one s flag n o1 hone] at h
      cases h; exact h1
    · obtain ⟨f, hf, he⟩ := C17.apply_entries_map s flag n o1 o2 hone h
      intro q hq
      rw [he] at hq
      obtain ⟨r, hr, rfl⟩ := List.mem_map.mp hq
      obtain ⟨⟨g0, g1⟩, gok⟩ := h1 r hr
      obtain ⟨sp, sn⟩ := scaleRes_spec (C17.creditOf s n) r
      unfold ResGood
      rw [(hf r).1, (hf r).2]
      refine ⟨scaleRes_range (hc n).1 (hc n).2 g0 g1, fun hp => ?_⟩
      by_cases hpos : r.grade > 0
      · rw [(sp hpos).1, (sp hpos).2]
      · rw [(sn hpos).1, (sn hpos).2]; exact gok hp

theorem pairs_good {pin : Bool} {o o' : At.Out}
    (he : o'.entries.map (fun r => (r.ok, r.grade)) = o.entries.map (fun r => (r.ok, r.grade)))
    (h : ∀ q ∈ o.entries, ResGood pin q) : ∀ q ∈ o'.entries, ResGood pin q := by
  intro q hq
  obtain ⟨r, hr, e⟩ := List.mem_map.mp (he ▸ List.mem_map_of_mem (f := fun r : At.Res => (r.ok, r.grade)) hq)
  obtain ⟨e1, e2⟩ := Prod.mk.inj e
  have := h r hr
  unfold ResGood at *
  rwa [← e1, ← e2]

/-- **The whole call.** If what the guarded `check` returned is good entry by entry and the configured schedule yields credits
    in [0,1], every entry of the value returned to edX — after key stripping, attempt-based scaling, debug output and message
    formatting — has a grade in [0,1] and an `ok` determined by it (unless pinned by the author). -/
theorem call_good {pin : Bool} {cfg : CallCfg} {att : Option ℤ} {log : String} {inp : GInput} {res : M CheckOut} {out : At.Out}
    (hres : ∀ r, res = .ok r → CheckGood pin r)
    (hs : ∀ s, cfg.sched = some s → ∀ n, 0 ≤ C17.creditOf s n ∧ C17.creditOf s n ≤ 1)
    (h : call cfg att log inp res = .ok out) : ∀ q ∈ out.entries, ResGood pin q := by
  obtain ⟨r, o1, o2, hr, hsk, hsch, rfl⟩ := call_ok h
  refine pairs_good (formatMessages_appendLog_ok_grade cfg.debug log o2).2 ?_
  have g1 := stripKeys_good (hres r hr) hsk
  rcases hsch with ⟨-, rfl⟩ | ⟨s, hsome, ha⟩
  · exact g1
  · exact applyAttempt_good (hs s hsome) g1 ha

/-- the two composed: a call of any list grader tree -/
theorem list_tree_call_good (pin : Bool) (t : LTree) (ht : t.TabsWF) {answers : List (List UAny)} {student : List String}
    (ha : ∀ al ∈ answers, ∀ a ∈ al, AnyWF pin a) {cfg : CallCfg} {att : Option ℤ} {log : String} {out : At.Out}
    (hs : ∀ s, cfg.sched = some s → ∀ n, 0 ≤ C17.creditOf s n ∧ C17.creditOf s n ≤ 1)
    (h : call cfg att log (.many student) ((t.check answers student).map CheckOut.list) = .ok out) :
    ∀ q ∈ out.entries, ResGood pin q := by
  refine call_good (pin := pin) (fun r hr => ?_) hs h
  obtain ⟨o, hc, rfl⟩ := Except.map_eq_ok_iff.mp hr
  exact list_tree_good pin t ht ha hc

/-- a call of any item grader tree -/
theorem item_tree_call_good (pin : Bool) (t : ITree) (ht : t.TabsWF) {ans : List (Answer UExp)} {inp : String}
    (ha : AnsWF pin ans) {cfg : CallCfg} {att : Option ℤ} {log : String} {out : At.Out}
    (hs : ∀ s, cfg.sched = some s → ∀ n, 0 ≤ C17.creditOf s n ∧ C17.creditOf s n ≤ 1)
    (h : call cfg att log (.one inp) ((t.check ans inp).map CheckOut.single) = .ok out) :
    ∀ q ∈ out.entries, ResGood pin q := by
  refine call_good (pin := pin) (fun r hr => ?_) hs h
  obtain ⟨o, hc, rfl⟩ := Except.map_eq_ok_iff.mp hr
  exact item_tree_good pin t ht ha hc

/-- **One entry per submitted input, none missing**, at every nesting level, for every validly configured list grader tree
    (`ListOK`; that there is one answer per group is enforced by the check itself since the `fix:` commit F11). -/
theorem list_tree_one_entry_per_input (t : LTree) {answers : List (List UAny)} {student : List String} {out : LOut}
    (hok : ListOK t answers) (hne : student ≠ []) (h : t.check answers student = .ok out) :
    out.entries.length = student.length ∧ ∀ e ∈ out.entries, e.isSome = true :=
  LTree.check_full t answers student out hok hne h

/-- hence the shape clause of a whole call holds unconditionally for such trees: list form, one entry per input -/
theorem list_tree_call_shape (t : LTree) {answers : List (List UAny)} {student : List String} (hok : ListOK t answers)
    (hne : student ≠ []) {cfg : CallCfg} {att : Option ℤ} {log : String} {out : At.Out}
    (h : call cfg att log (.many student) ((t.check answers student).map CheckOut.list) = .ok out) :
    isSingle out = false ∧ out.entries.length = student.length := by
  obtain ⟨r, hr, hs⟩ := call_shape h
  obtain ⟨o, hc, rfl⟩ := Except.map_eq_ok_iff.mp hr
  exact ⟨hs.1, hs.2.1.trans (LTree.check_full t answers student o hok hne hc).1⟩

/-- and, with debug off, every error that leaves the call of such a tree belongs to the library's family (C02): the
    "an entry for every input" premise of `call_escape_classes` is discharged by the tree theorem -/
theorem list_tree_escape_classes (t : LTree) {answers : List (List UAny)} {student : List String} (hok : ListOK t answers)
    (hne : student ≠ []) {cfg : CallCfg} (hd : cfg.debug = false) {att : Option ℤ} {log : String} {e : Gr.Err}
    (h : call cfg att log (.many student) ((t.check answers student).map CheckOut.list) = .error e) :
    ∃ cls msg, e = .mitx cls msg := by
  refine call_escape_classes hd (fun o ho => ?_) h
  obtain ⟨o', hc, ho'⟩ := Except.map_eq_ok_iff.mp ho
  cases ho'
  exact List.all_eq_true.mpr (LTree.check_full t answers student o hok hne hc).2

theorem creditOf_range {s : ℤ → ℚ} (h : ∀ a : ℤ, 1 ≤ a → 0 ≤ s a ∧ s a ≤ 1) (n : ℤ) :
    0 ≤ C17.creditOf s n ∧ C17.creditOf s n ≤ 1 :=
  have ⟨h0, h1⟩ := h (C17.clamp n) (C17.schedule_arg_ge_one n)
  At.round4_unit h0 h1

theorem builtin_credit_range_linear {after steps : ℕ} {minc : ℚ} (ha : 1 ≤ after) (hs : 1 ≤ steps) (h0 : 0 ≤ minc) (h1 : minc ≤ 1)
    (n : ℤ) : 0 ≤ C17.creditOf (linearCredit after steps minc) n ∧ C17.creditOf (linearCredit after steps minc) n ≤ 1 :=
  creditOf_range (fun a _ => C17.linear_range ha hs h0 h1 a) n

theorem builtin_credit_range_geometric {f : ℚ} (h0 : 0 ≤ f) (h1 : f ≤ 1) (n : ℤ) :
    0 ≤ C17.creditOf (geometricCredit f) n ∧ C17.creditOf (geometricCredit f) n ≤ 1 :=
  creditOf_range (fun a _ => C17.geometric_range h0 h1 a) n

theorem builtin_credit_range_reciprocal (n : ℤ) :
    0 ≤ C17.creditOf reciprocalCredit n ∧ C17.creditOf reciprocalCredit n ≤ 1 :=
  creditOf_range (fun _ ha => C17.reciprocal_range ha) n

/-- **IntervalGrader** (`check_response` + `grade_bracket` on top of the SingleListGrader machinery): the result is good, given
    bracket credits and the answer's own credit in [0,1] (which answer validation guarantees) and a good subgrader for the bounds -/
theorem interval_result_good {α : Type} {cfg : IvCfg} {sub : α → String → M IRes} {pin : Bool} {m : AnsMeta} {opn cls : List BrAns}
    {lo hi : α} {inp : String} {out : IRes} (hm0 : 0 ≤ m.grade) (hm1 : m.grade ≤ 1)
    (hopn : ∀ b ∈ opn, 0 ≤ b.grade ∧ b.grade ≤ 1) (hcls : ∀ b ∈ cls, 0 ≤ b.grade ∧ b.grade ≤ 1)
    (hsub : ∀ a, a = lo ∨ a = hi → ∀ i r, sub a i = .ok r → Good pin r)
    (h : intervalCheckResponse cfg sub m opn lo hi cls inp = .ok out) : Good pin out := by
  obtain ⟨mid, g0, g1, hgl, rfl⟩ := intervalCheckResponse_ok h
  have hall : ∀ r ∈ [g0, g1], Good pin r := fun r hr => by
    rcases slGradeList_mem hgl r hr with rfl | ⟨a, ha, i, hr⟩
    · exact Good.zero rfl rfl
    · exact hsub a (by simpa using ha) i r hr
  exact .of_wf (processGradeList_wf _ _ _ _ two_pos (List.forall_mem_cons.mpr
    ⟨(gradeBracket_good opn hopn _ (hall g0 (by simp))).1.2,
      List.forall_mem_singleton.mpr (gradeBracket_good cls hcls _ (hall g1 (by simp))).1.2⟩) hm0 hm1)

/-- the bracket rules: a bound that earned nothing is left alone; a bracket that no answer lists zeroes the bound; otherwise the
    bound's credit is multiplied by the best credit among the bracket answers listing the character, `ok` recomputed -/
theorem interval_bracket_rules (answers : List BrAns) (s : String) (e : IRes) :
    (e.grade = 0 → gradeBracket answers s e = e) ∧
    (e.grade ≠ 0 → (∀ b ∈ answers, ¬ lists s b) → (gradeBracket answers s e).grade = 0 ∧ (gradeBracket answers s e).ok = .no) ∧
    (e.grade ≠ 0 → ∀ b, bestBracket answers s = some b →
      (b ∈ answers ∧ lists s b ∧ ∀ b' ∈ answers, lists s b' → b'.grade ≤ b.grade) ∧
      (gradeBracket answers s e).grade = e.grade * b.grade ∧ (gradeBracket answers s e).ok = gradeToOk (e.grade * b.grade)) := by
  obtain ⟨r0, r1, r2⟩ := gradeBracket_rules answers s e
  exact ⟨r0, r1, fun hne b hb => ⟨(bestBracket_spec answers s).2 b hb, r2 hne b hb⟩⟩

/-- malformed submissions are refused with library errors, before anything is graded: fewer than five characters is a
    (student-visible) ConfigError, a bracket outside the configured sets an InvalidInput -/
theorem interval_refusals {α : Type} (cfg : IvCfg) (sub : α → String → M IRes) (m : AnsMeta) (opn cls : List BrAns) (lo hi : α)
    (inp : String) :
    ((pyStrip inp).length < 5 → ∃ msg, intervalCheckResponse cfg sub m opn lo hi cls inp = .error (Err.config msg)) ∧
    (¬ (pyStrip inp).length < 5 → cfg.opening.toList.contains ((pyStrip inp).toList.headD ' ') = false →
      ∃ msg, intervalCheckResponse cfg sub m opn lo hi cls inp = .error (.mitx "InvalidInput" msg)) := by
  unfold intervalCheckResponse
  simp only [Except.throw_bind]
  constructor
  · intro h; rw [if_pos h]; exact ⟨_, rfl⟩
  · intro h1 h2; rw [if_neg h1, h2]; exact ⟨_, rfl⟩

/-! non-vacuity: a SingleListGrader over a table leaf inside an unordered ListGrader, with partial credits -/
def exLeaf : ITree := .table [⟨("a", "a"), 1, "", none⟩, ⟨("a", "b"), 1/2, "close", none⟩, ⟨("b", "b"), 1, "", none⟩] "wrong"
def exSL : ITree := .singlelist ⟨false, false, false, true, ",", false⟩ "" exLeaf
def exList : LTree := .list ⟨false, true, []⟩ [.item exSL]
def exAns : UAny := .item [⟨[.items [[⟨[.str "a"], ⟨1, "", .yes⟩⟩], [⟨[.str "b"], ⟨1, "", .yes⟩⟩]]], ⟨1, "", .yes⟩⟩]

example : exList.TabsWF :=
  ⟨List.forall_mem_cons.mpr ⟨by norm_num, List.forall_mem_cons.mpr ⟨by norm_num, List.forall_mem_singleton.mpr (by norm_num)⟩⟩,
    trivial⟩

example : AnyWF false exAns := by
  have full : (0 : ℚ) ≤ 1 ∧ (1 : ℚ) ≤ 1 ∧ (false = false → At.Ok.yes = At.gradeToOk 1) :=
    ⟨zero_le_one, le_rfl, fun _ => by simp [At.gradeToOk]⟩
  have one : ∀ s : String, AnsWF false [⟨[.str s], ⟨1, "", .yes⟩⟩] := fun s =>
    .mk _ (List.forall_mem_singleton.mpr full) (List.forall_mem_singleton.mpr (List.forall_mem_singleton.mpr (.str s)))
  exact .item _ (.mk _ (List.forall_mem_singleton.mpr full) (List.forall_mem_singleton.mpr (List.forall_mem_singleton.mpr
    (.items _ (List.cons_ne_nil _ _) (List.forall_mem_cons.mpr ⟨one "a", List.forall_mem_singleton.mpr (one "b")⟩)))))

example : (exList.check [[exAns, exAns]] ["b,a", "a,a"]).toOption.map (fun o => o.entries.map (fun e => e.map (fun r => (r.ok, r.grade))))
    = some [some (.yes, 1), some (.part, 1/2)] := by decide +kernel

/-! non-vacuity for the shape theorem: an unordered grouped ListGrader over a nested ordered ListGrader (grouping `[1,2,1,2]`) -/
def exInner : LTree := .list ⟨true, true, []⟩ [.item exLeaf]
def exOuter : LTree := .list ⟨false, true, [1, 2, 1, 2]⟩ [.nested exInner]
def exItemA : UAny := .item [⟨[.str "a"], ⟨1, "", .yes⟩⟩]
def exItemB : UAny := .item [⟨[.str "b"], ⟨1, "", .yes⟩⟩]
def exOuterAns : List (List UAny) := [[.lists [[exItemA, exItemB]], .lists [[exItemB, exItemB]]]]

example : ListOK exOuter exOuterAns := by
  have inner : ∀ ls, ListOK exInner ls := fun ls =>
    .mk _ _ _ (Or.inl rfl) fun _ _ _ a _ s hs => by
      obtain rfl : STree.item exLeaf = s := Option.some.inj hs
      exact .item _ a
  refine .mk _ _ _ (Or.inr ⟨[[0, 2], [1, 3]], by decide⟩) fun al hal k a hcond s hs => ?_
  obtain rfl : STree.nested exInner = s := Option.some.inj hs
  cases List.mem_singleton.mp hal
  have ⟨_, ha⟩ : k = 0 ∧ a ∈ _ := hcond
  rcases List.mem_pair.mp ha with rfl | rfl <;> exact .nested _ _ (inner _)

example : (exOuter.check exOuterAns ["b", "a", "b", "b"]).toOption.map (fun o => o.entries.map (fun e => e.map (fun r => r.grade)))
    = some [some 1, some 1, some 1, some 1] := by decide +kernel
end C01
