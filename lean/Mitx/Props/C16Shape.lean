import Mitx.Model.MatrixShape
/-! # C16 — "submissions of the wrong shape are reported as shape mismatches according to the grader's mismatch policy, not
silently graded" (model `Ms`) -/
namespace C16
open Ms

theorem validateShape_ok_iff (e i : List Nat) (d : Detail) : validateShape e i d = .ok () ↔ e = i := by
  unfold validateShape
  by_cases h : e = i
  · simp [h]
  · simp only [h, ↓reduceIte, iff_false]
    cases d <;> simp only [] <;> (try split) <;> simp

/-- **Never silently graded**: for a wrongly shaped value the comparer's verdict is never what is returned — the outcome is the
shape-mismatch error, raised or reported with zero credit as the policy says -/
theorem wrong_shape_not_graded (p : Policy) (d : Detail) (e i : List Nat) (verdict : Outcome) (h : e ≠ i) :
    ∃ msg, validateShape e i d = .error msg ∧
      gradeShaped p d e i verdict = (if p.suppress then .zero "" else if p.mismatchRaised then .raised msg else .zero msg) := by
  unfold gradeShaped
  cases hv : validateShape e i d with
  | ok u => exact absurd ((validateShape_ok_iff e i d).mp (by rw [hv])) h
  | error msg => exact ⟨msg, rfl, by simp [ladder]⟩

/-- a correctly shaped value is graded by the comparer, whatever the policy -/
theorem right_shape_graded (p : Policy) (d : Detail) (e : List Nat) (verdict : Outcome) : gradeShaped p d e e verdict = verdict := by
  simp [gradeShaped, validateShape]

/-- the three levels of detail of the message -/
theorem mismatch_message (e i : List Nat) (h : e ≠ i) :
    validateShape e i .none = .error "" ∧
    validateShape e i .shape = .error ("Expected answer to be a " ++ description e ++ ", but input is a " ++ description i) ∧
    (shapeName e.length ≠ shapeName i.length →
      validateShape e i .type = .error ("Expected answer to be a " ++ shapeName e.length ++ ", but input is a " ++ shapeName i.length)) ∧
    (shapeName e.length = shapeName i.length →
      validateShape e i .type = .error ("Expected answer to be a " ++ shapeName e.length ++ ", but input is a " ++ shapeName i.length ++ " of incorrect shape")) := by
  refine ⟨by simp [validateShape, h], by simp [validateShape, h], ?_, ?_⟩
  · intro hn; simp [validateShape, h, hn]
  · intro hn; simp [validateShape, h, hn]

/-- with `suppress_matrix_messages` every handled error becomes a silent zero; without it, array / argument-shape errors always reach
the student, shape errors when `shape_errors`, mismatches when `is_raised` — and what is not raised is reported with zero credit -/
theorem ladder_spec (p : Policy) (k : ErrKind) (msg : String) :
    (p.suppress = true → ladder p k msg = .zero "") ∧
    (p.suppress = false → ladder p k msg =
      match k with
      | .shapeError => if p.shapeErrors then .raised msg else .zero msg
      | .inputType => if p.mismatchRaised then .raised msg else .zero msg
      | .argShapeOrArray => .raised msg) := by
  constructor
  · intro h; cases k <;> simp [ladder, h]
  · intro h; cases k <;> simp [ladder, h]

/-- the ladder never awards credit (by the type: `Outcome` has no other constructors) -/
theorem ladder_no_credit (p : Policy) (k : ErrKind) (msg : String) : (∃ m, ladder p k msg = .raised m) ∨ (∃ m, ladder p k msg = .zero m) := by
  cases ladder p k msg with
  | raised m => exact .inl ⟨m, rfl⟩
  | zero m => exact .inr ⟨m, rfl⟩

def msgOf (r : Except String Unit) : String := match r with | .error m => m | .ok _ => "<ok>"

example : msgOf (validateShape [2, 3] [3, 2] .type) = "Expected answer to be a matrix, but input is a matrix of incorrect shape" ∧
    msgOf (validateShape [3] [2, 2] .shape) = "Expected answer to be a vector of length 3, but input is a matrix of shape (rows: 2, cols: 2)" ∧
    msgOf (validateShape [] [2, 2, 2] .shape) = "Expected answer to be a scalar, but input is a tensor of shape (2, 2, 2)" ∧
    msgOf (validateShape [2] [2] .none) = "<ok>" := by decide +kernel

end C16
