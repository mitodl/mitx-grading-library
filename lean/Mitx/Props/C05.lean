import Mitx.Lemmas.Check
import Mitx.Lemmas.Optimal
import Mitx.Lemmas.Grouping
/-! # C05 — ListGrader gives the best consistent assignment and reports it per input box

Model: `Gr.listCheck`, `Gr.performCheck`, `Gr.getBestResult`, `Gr.findOptimalOrder`, `Gr.groupify/ungroupify`
for arbitrary subgrader `check` functions `sub k`. -/
namespace C05
open Gr Finset

variable {α : Type}

/-- **One answer per group.** With a grouping, a check that returns had exactly as many answers as groups (otherwise it is
    refused with a ConfigError — as repaired by the `fix:` commit F11; before, a mismatch led to missing entries and a raw
    AttributeError) -/
theorem performCheck_groups_match {cfg : LCfg} {sub : ℕ → α → GInput → M SubRes} {answers : List α} {student : List String} {o : LOut}
    (hg : cfg.grouping.isEmpty = false) (h : performCheck cfg sub answers student = .ok o) :
    groupsMatch cfg.grouping answers.length = true := by
  have := (performCheck_ok h).1
  rw [hg] at this
  exact this.2

/-- a mismatch between the number of answers and the number of groups is refused with a configuration error -/
theorem groups_mismatch_refused {cfg : LCfg} {sub : ℕ → α → GInput → M SubRes} {answers : List α} {student : List String}
    (hg : cfg.grouping.isEmpty = false) (hl : cfg.grouping.length = student.length)
    (hm : groupsMatch cfg.grouping answers.length = false) :
    ∃ msg, performCheck cfg sub answers student = .error (Err.config msg) := by
  unfold performCheck
  simp only [Except.throw_bind, hg, Bool.not_false, ↓reduceIte, hl, bne_self_eq_false, Bool.false_eq_true, hm]
  exact ⟨_, rfl⟩

/-- **Ordered**: the k-th (grouped) result is exactly what the k-th subgrader returns for the k-th answer and
    the k-th (grouped) input. -/
theorem ordered_pointwise {cfg : LCfg} {sub : ℕ → α → GInput → M SubRes} {answers : List α} {student : List String} {o : LOut}
    (hord : cfg.ordered = true) (h : performCheck cfg sub answers student = .ok o) :
    let gmap := if cfg.grouping.isEmpty then none else createGroupingMap cfg.grouping
    ∃ inputList, o.entries = ungroupify gmap inputList ∧
      List.Forall₂ (fun p r => sub p.2 p.1.1 p.1.2 = .ok r) ((answers.zip (groupify gmap student)).zipIdx) inputList := by
  obtain ⟨-, il, rfl, hil⟩ := performCheck_ok h
  rw [if_pos hord] at hil
  exact ⟨il, rfl, List.mapM_eq_ok_iff.mp hil⟩

/-- without grouping, short-form results are reported one per input, in input order -/
theorem ungroupify_none_single (l : List IRes) : ungroupify none (l.map SubRes.single) = l.map some := by
  rw [ungroupify, List.flatMap_map]; exact List.map_eq_flatMap.symm

/-- **Unordered**: the results are those of a one-to-one assignment of inputs to answers whose total credit no
    other assignment beats; entry `i` is the result of checking input `i` (reported at the position of that input). -/
theorem unordered_optimal {cfg : LCfg} {sub : ℕ → α → GInput → M SubRes} {answers : List α} {student : List String} {o : LOut}
    {n : ℕ} (hn : 0 < n) (hord : cfg.ordered = false) (hgr : cfg.grouping = []) (ha : answers.length = n)
    (h : performCheck cfg sub answers student = .ok o) :
    ∃ (hs : student.length = n) (R : Fin n → Fin n → SubRes) (τ : Equiv.Perm (Fin n)),
      (∀ i j : Fin n, sub 0 (answers[j.1]'(by rw [ha]; exact j.2)) (.one (student[i.1]'(by rw [hs]; exact i.2))) = .ok (R i j)) ∧
      (∀ σ : Equiv.Perm (Fin n), ∑ i, (R i (σ i)).grade ≤ ∑ i, (R i (τ i)).grade) ∧
      o.entries = ungroupify none (List.ofFn (fun i : Fin n => R i (τ i))) := by
  obtain ⟨hlen, il, rfl, hil⟩ := performCheck_ok h
  simp only [hgr, List.isEmpty_nil, ↓reduceIte, hord, Bool.false_eq_true] at hlen hil ⊢
  have hs : student.length = n := hlen ▸ ha
  obtain ⟨R, τ, hR, rfl, hopt⟩ := findOptimalOrder_optimal (grade := SubRes.grade) hn ha
    (by rw [groupify, List.length_map, hs]) hil
  refine ⟨hs, R, τ, fun i j => ?_, hopt, rfl⟩
  simpa [groupify] using hR i j

/-- **Several answer lists**: the reported list is one of the candidates and has maximal total credit. -/
theorem best_list_maximal {results : List LOut} {r : LOut} (h : getBestResult results = some r) :
    r ∈ results ∧ ∀ x ∈ results, total x ≤ total r :=
  getBestResult_spec h

/-- **partial_credit=False**: every entry is zeroed unless every entry is fully correct. -/
theorem no_partial_credit {cfg : LCfg} {sub : ℕ → α → GInput → M SubRes} {answers : List (List α)} {student : List String} {o : LOut}
    (hpc : cfg.partialCredit = false) (h : listCheck cfg sub answers student = .ok o) :
    (∀ e ∈ o.entries, ∀ r, e = some r → r.ok = .yes) ∨ (∀ e ∈ o.entries, ∀ r, e = some r → r.ok = .no ∧ r.grade = 0) := by
  obtain ⟨-, -, best, -, ⟨rfl, hall⟩ | ⟨-, rfl⟩⟩ := listCheck_ok h
  · left
    rintro e he r rfl
    obtain ⟨r', hr', hy⟩ := hall hpc _ he
    cases hr'; exact hy
  · right
    rintro e he r rfl
    obtain ⟨e0, -, he0⟩ := List.mem_map.mp he
    cases e0 <;> cases he0
    exact ⟨rfl, rfl⟩

/-- a wrong number of inputs is refused, not graded -/
theorem wrong_count_refused {cfg : LCfg} {sub : ℕ → α → GInput → M SubRes} {answers : List α} {student : List String}
    (hgr : cfg.grouping = []) (hne : answers.length ≠ student.length) :
    ∃ msg, performCheck cfg sub answers student = .error (Err.config msg) := by
  unfold performCheck
  have : (answers.length != student.length) = true := by simpa using hne
  simp only [Except.throw_bind, hgr, List.isEmpty_nil, Bool.not_true, Bool.false_eq_true, ↓reduceIte, this]
  exact ⟨_, rfl⟩

/-- `create_grouping_map` accepts exactly the groupings that partition the input positions: in an accepted map every
    position `0 … N-1` occurs in exactly one group, and group `g` holds precisely the positions numbered `g + 1`. -/
theorem grouping_is_partition {grouping : List ℕ} {gs : List (List ℕ)} (h : createGroupingMap grouping = some gs) :
    ValidMap gs grouping.length ∧ ∀ g i, g < gs.length → (i ∈ gs.getD g [] ↔ grouping[i]? = some (g + 1)) :=
  createGroupingMap_valid h

/-- `groupify` hands group `g` exactly the submitted inputs at that group's positions, in order -/
theorem grouped_input_is_group (gs : List (List ℕ)) (student : List String) (g : ℕ) (hg : g < gs.length) :
    (groupify (some gs) student)[g]? = some (match gs[g] with
      | [i] => GInput.one (student.getD i "")
      | grp => GInput.many (grp.map (fun i => student.getD i ""))) := by
  unfold groupify
  simp only [List.getElem?_map, List.getElem?_eq_getElem hg, Option.map_some]
  congr 1
  split <;> simp_all

/-- **Results are reported per input box, also under grouping.** After a successful `perform_check` with a grouping there is
    one entry per submitted input, and the entry at the position of the `j`-th input of group `g` is the `j`-th result the
    subgrader returned for group `g` (ordered and unordered alike), provided the subgraders return results of the shape of
    their input (`Compat`; the C01 shape theorem for item and list graders). -/
theorem grouped_entry_position {cfg : LCfg} {sub : ℕ → α → GInput → M SubRes} {answers : List α} {student : List String}
    {o : LOut} {gs : List (List ℕ)} (hgr : cfg.grouping ≠ []) (hmap : createGroupingMap cfg.grouping = some gs)
    (h : performCheck cfg sub answers student = .ok o) :
    ∃ inputList, o.entries = ungroupify (some gs) inputList ∧
      (List.Forall₂ Compat gs inputList →
        o.entries.length = student.length ∧
        ∀ g j (hg : g < gs.length) (hg' : g < inputList.length) (hj : j < gs[g].length) (hj' : j < inputList[g].flat.length),
          o.entries[gs[g][j]]? = some (some (inputList[g].flat[j]))) := by
  obtain ⟨hlen, il, rfl, -⟩ := performCheck_ok h
  rw [if_neg (by simpa using hgr)] at hlen
  simp only [if_neg (show ¬ cfg.grouping.isEmpty = true by simpa using hgr), hmap]
  exact ⟨il, rfl, fun hs => hlen.1 ▸ ungroupify_position (createGroupingMap_valid hmap).1 (List.length_pos_iff.mpr hgr) hs⟩

/-- non-vacuity: the documentation's interleaved grouping is accepted; a gap in the group numbers is not -/
example : createGroupingMap [1, 2, 1, 2] = some [[0, 2], [1, 3]] := by decide
example : createGroupingMap [1, 3, 1] = none := by decide

end C05
