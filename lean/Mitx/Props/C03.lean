import Mitx.Parser.RoundTrip
import Mitx.Parser.Lex
import Mitx.Parser.Reject
import Mitx.Parser.LexReject
import Mitx.Parser.Fuel
import Mitx.Generated.Grammar
import Mitx.Model.GrammarSpec
/-! # C03 — formula strings evaluate to the value mathematics assigns them

Model: token-level PEG parser `Mitx/Parser/Syntax.lean`, lexer `Mitx/Parser/Lex.lean`, node evaluators over an arbitrary
operator algebra `Mitx/Parser/Sem.lean`. -/
namespace C03

/-- **Round trip (precedence, associativity, parentheses).** For every expression tree `e` (n-ary `||`, binary `+ - * / ^`,
    unary minus, calls, arrays) and every interpretation `A` of the operators, the minimally parenthesised rendering of `e`
    parses, for all large enough fuel, to a tree evaluating to `denote A e`. -/
theorem round_trip {V : Type} (A : Alg V) (e : E) :
    ∃ F, ∀ f, F ≤ f → ∃ t, pExpr f (render e) = some (t, []) ∧ evalT A t = denote A e :=
  parse_render A e

/-- **The executable parser.** The same about `parseToks` itself, with the concrete fuel `20·|tokens| + 20` that the
    correspondence run drives. -/
theorem round_trip_executable {V : Type} (A : Alg V) (e : E) :
    ∃ t, parseToks (render e) = some t ∧ evalT A t = denote A e := by
  obtain ⟨F, hF⟩ := parse_render A e
  obtain ⟨t, ht, hv⟩ := hF (max F (8 * (render e).length + 6)) (Nat.le_max_left _ _)
  exact ⟨t, parseToks_of_pExpr (Nat.le_max_right _ _) ht, hv⟩

/-- **Fuel adequacy**: beyond `8·|tokens| + 6` the fuel is irrelevant, so `parseToks = none` is a genuine rejection. -/
theorem fuel_adequate {ts : List Tok} (h : parseToks ts = none) (f : Nat) (hf : 8 * ts.length + 6 ≤ f) :
    ∀ t, pExpr f ts ≠ some (t, []) := fun t ht => by
  rw [parseToks_of_pExpr hf ht] at h; cases h

theorem fuel_irrelevant (ts : List Tok) (f : Nat) (hf : 8 * ts.length + 6 ≤ f) : pExpr f ts = pExpr (8 * ts.length + 6) ts :=
  pExpr_fuel_irrelevant ts f hf

/-- Spaces are irrelevant anywhere: the lexer only ever sees the space-stripped characters. -/
theorem spaces_irrelevant (s s' : String) (h : s.toList.filter (· != ' ') = s'.toList.filter (· != ' ')) :
    parseString s = parseString s' := by
  unfold parseString lex
  simp only [h]

/-- **Nothing is dropped or reordered**: a successful parse consumed exactly the token string `yT t` of its tree, which
    starts, ends and pairs admissibly. -/
theorem parse_yield {ts : List Tok} {t : T} (h : parseToks ts = some t) : ts = yT t ∧ Seg startE ts :=
  parseToks_sound h

/-- the same for every fuel and every continuation -/
theorem pExpr_consumes_yield (f : Nat) {ts rest : List Tok} {t : T} (h : pExpr f ts = some (t, rest)) :
    ts = yT t ++ rest ∧ Seg startE (yT t) :=
  (snd_all f).expr _ _ _ h

/-- **Doubled operators**: two binary operators in a row, other than a second `-` (a sign) and the two bars of `||`. -/
theorem reject_doubled_operator (pre post : List Tok) (a b : Tok) (ha : isBinop a = true) (hb : isBinop b = true)
    (hsign : b ≠ .minus) (hbar : ¬ (a = .pipe ∧ b = .pipe)) : parseToks (pre ++ a :: b :: post) = none := by
  apply parseToks_bad_pair
  rw [adj_binop b ha, startN, startA_eq, hb]
  simpa [hsign] using fun h1 h2 => hbar ⟨h1, h2⟩

/-- **Juxtaposition**: an operand end (number, name, `)`, `]`) directly followed by the start of an operand (number, name,
    `(`, `[`) — except `name (`, a call. -/
theorem reject_juxtaposition (pre post : List Tok) (a b : Tok) (ha : opndEnd a = true) (hb : startA b = true)
    (hcall : ¬ (isName a = true ∧ b = .lp)) : parseToks (pre ++ a :: b :: post) = none := by
  apply parseToks_bad_pair
  rw [startA_eq, Bool.not_eq_true', Bool.or_eq_false_iff] at hb
  rw [adj_opndEnd b ha, hb.1, hb.2]
  simpa using fun h1 h2 => hcall ⟨h1, h2⟩

/-- **Empty brackets and argument lists** `()`, `[]`, `f()`, and an operator or comma directly before a closing bracket. -/
theorem reject_empty_brackets (pre post : List Tok) (a b : Tok) (ha : opndEnd a = false) (hb : isCloser b = true) :
    parseToks (pre ++ a :: b :: post) = none := by
  apply parseToks_bad_pair
  have hE : startE b = false ∧ (b == .pipe) = false := by cases b <;> first | exact ⟨rfl, rfl⟩ | cases hb
  rcases opener_of_not_opndEnd ha with ha | ha
  · rw [adj_binop b ha, hE.2, Bool.and_false, Bool.false_or]
    exact Bool.eq_false_iff.mpr fun h => by rw [startE_of_startN h] at hE; cases hE.1
  · rw [adj_opener ha, hE.1]

/-- no operator but a sign directly after an opening bracket or comma -/
theorem reject_operator_after_open (pre post : List Tok) (a b : Tok) (ha : a = .lp ∨ a = .lb ∨ a = .comma)
    (hb : startE b = false) : parseToks (pre ++ a :: b :: post) = none := by
  apply parseToks_bad_pair
  rw [adj_opener ha, hb]

/-- no binary operator but a sign, no closing bracket or comma at the start -/
theorem reject_leading_operator (t0 : Tok) (r : List Tok) (h0 : startE t0 = false) : parseToks (t0 :: r) = none :=
  parseToks_eq_none fun ⟨⟨x, hx, hs⟩, _⟩ => by cases hx; rw [h0] at hs; cases hs

/-- no operator, opening bracket or comma at the end -/
theorem reject_trailing_operator (pre : List Tok) (l : Tok) (hl : opndEnd l = false) : parseToks (pre ++ [l]) = none :=
  parseToks_eq_none fun ⟨_, ⟨x, hx, hs⟩, _⟩ => by
    rw [lastT_append_of_some (b := [l]) rfl] at hx; cases hx; rw [hl] at hs; cases hs

theorem reject_empty : parseToks [] = none :=
  parseToks_eq_none fun ⟨⟨x, hx, _⟩, _⟩ => by cases hx

/-- **Foreign characters**: a character outside the grammar's alphabet, anywhere in the string, makes the parse fail. -/
theorem reject_foreign_character (src : String) (c : Char) (hc : c ∈ src.toList) (hbad : allowedChar c = false) :
    parseString src = none := by
  unfold parseString; rw [lex_rejects_foreign src c hc hbad]; rfl

/-! the rejection theorems on strings, by evaluation -/
example : parseString "2*(x+1)^-2" ≠ none := by decide +kernel
example : parseString "2**x" = none := by decide +kernel
example : parseString "(2)x" = none := by decide +kernel
example : parseString "x y" ≠ none := by decide +kernel   -- spaces are removed first: this is the name `xy`
example : parseString "f()" = none := by decide +kernel
example : parseString "x+$" = none := by decide +kernel
example : allowedChar '$' = false := by decide
example : allowedChar '—' = true := by decide

/-- **Redundant parentheses**: a complete expression, wrapped in parentheses, is a complete phrase of the tightest level
    (it may stand wherever an operand may) and again a complete expression, with the same value. -/
theorem parens_redundant {V : Type} (A : Alg V) {L : List Tok} {v : V} (h : PA0 A L v) :
    PA5 A (Tok.lp :: L ++ [Tok.rp]) v ∧ PA0 A (Tok.lp :: L ++ [Tok.rp]) v :=
  ⟨pa5_paren A h, SumForm.pa0 A (Lv.le A (Nat.zero_le 5) (pa5_paren A h))⟩

/-- `^` is right-associative: `a ^ b ^ c … = a ^ (b ^ (c …))`; a sign on an exponent negates that exponent's value -/
theorem evalPower_right_assoc {V : Type} (A : Alg V) (s : Bool) (e : V) (rest : List (Bool × V)) (hne : rest ≠ []) :
    expo A ((s, e) :: rest) = (expo A rest).map (fun r => if s then A.neg (A.pow e r) else A.pow e r) := by
  obtain _ | ⟨⟨s', e'⟩, ps⟩ := rest
  · exact (hne rfl).elim
  · rw [expo_cons, expo_cons A s']
    cases s <;> rfl

theorem evalPower_last {V : Type} (A : Alg V) (s : Bool) (e : V) :
    expo A [(s, e)] = some (if s then A.neg e else e) := expo_cons A s e []

/-- `*` and `/` associate to the left -/
theorem evalProduct_foldl {V : Type} (A : Alg V) (a : T) (rest : List (Bool × T)) :
    evalT A (.prod a rest) = (evalP A rest).foldl (prodStep A) (evalT A a) := by simp [evalT]
theorem evalProduct_snoc {V : Type} (A : Alg V) (acc : V) (l : List (Bool × V)) (s : Bool) (x : V) :
    (l ++ [(s, x)]).foldl (prodStep A) acc = (if s then A.div (l.foldl (prodStep A) acc) x else A.mul (l.foldl (prodStep A) acc) x) := by
  simp [List.foldl_append, prodStep]
/-- `+` and `-` associate to the left; a leading `+` does not change the value -/
theorem evalSum_foldl {V : Type} (A : Alg V) (lead : Bool) (a : T) (rest : List (Bool × T)) :
    evalT A (.sum lead a rest) = (evalP A rest).foldl (sumStep A) (evalT A a) := by simp [evalT]
theorem evalSum_snoc {V : Type} (A : Alg V) (acc : V) (l : List (Bool × V)) (s : Bool) (x : V) :
    (l ++ [(s, x)]).foldl (sumStep A) acc = (if s then A.sub (l.foldl (sumStep A) acc) x else A.add (l.foldl (sumStep A) acc) x) := by
  simp [List.foldl_append, sumStep]
theorem evalNegation {V : Type} (A : Alg V) (t : T) : evalT A (.neg t) = A.neg (evalT A t) := by simp [evalT]
theorem evalParen {V : Type} (A : Alg V) (t : T) : evalT A (.paren t) = evalT A t := by simp [evalT]

/-- **Generated obligation.** The pyparsing object graph of `MathParser().grammar`, regenerated from the live code on every
    run (`harness/translate/grammar.py` → `Mitx/Generated/Grammar.lean`), equals the reviewed description that the lexer and
    parser model; any edit of the grammar — an operator literal, a character class, `Optional` ↔ `ZeroOrMore`, the order of
    precedence levels or of alternatives, a parse action moved to another element — breaks it. -/
theorem grammar_matches : Gen.grammar = GrammarSpec.expected := rfl

end C03
