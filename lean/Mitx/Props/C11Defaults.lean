import Mitx.Lemmas.Defaults
/-! # C11 — registered class defaults: precedence and no aliasing (object-identity model `Rd`)

`apply_registered_defaults` turns course-wide defaults (`register_defaults`) plus a grader's own options into its configuration:
a NEW object; no registered dictionary is ever written; each value is the explicit one, else that of the most specific class. -/
namespace C11
open Rd

/-- the configuration handed to the new grader is a fresh object, and every existing dictionary (in particular every
registered `default_values`) is exactly what it was -/
theorem defaults_no_alias (h : Heap) (hw : h.WF) (chain : List (Option Nat)) (config : Dict) :
    (applyDefaults h chain config).2 = h.next ∧
    (∀ c ∈ h.cells, c.1 ≠ (applyDefaults h chain config).2) ∧
    (∀ i, i ≠ (applyDefaults h chain config).2 → (applyDefaults h chain config).1.get i = h.get i) ∧
    (applyDefaults h chain config).1.WF := by
  refine ⟨rfl, ?_, ?_, ?_⟩
  · intro c hc; have := hw c hc; simp only [applyDefaults, Heap.alloc]; omega
  · intro i hi; exact get_alloc_old h _ i hi
  · intro c hc
    simp only [applyDefaults, Heap.alloc, List.mem_append, List.mem_singleton] at hc ⊢
    rcases hc with hc | rfl
    · have := hw c hc; omega
    · simp

/-- **precedence**: explicit option, else the most specific class of the chain that registers the key, else absent
(the schema default applies afterwards) -/
theorem defaults_precedence (h : Heap) (hw : h.WF) (chain : List (Option Nat)) (config : Dict) (k : String)
    (hc : KeysNodup config) (hnd : ∀ i, some i ∈ chain → KeysNodup (h.get i)) :
    lookup ((applyDefaults h chain config).1.get (applyDefaults h chain config).2) k = specLookup h chain config k := by
  have : (applyDefaults h chain config).1.get (applyDefaults h chain config).2 = update (baseOf h chain) config :=
    get_alloc_new h hw _
  rw [this, lookup_update_of_nodup hc, lookup_baseOf h chain k hnd]
  unfold specLookup
  cases lookup config k <;> simp

/-- **histories**: after any sequence of grader constructions (any chains, any configurations) every dictionary that existed
before — every registered `default_values` — still has its original contents -/
theorem defaults_history (calls : List (List (Option Nat) × Dict)) (h : Heap) (hw : h.WF) :
    (calls.foldl (fun hh c => (applyDefaults hh c.1 c.2).1) h).WF ∧
    h.next ≤ (calls.foldl (fun hh c => (applyDefaults hh c.1 c.2).1) h).next ∧
    ∀ i, i < h.next → (calls.foldl (fun hh c => (applyDefaults hh c.1 c.2).1) h).get i = h.get i := by
  induction calls generalizing h with
  | nil => exact ⟨hw, Nat.le_refl _, fun _ _ => rfl⟩
  | cons c rest ih =>
    obtain ⟨hid, _, hold, hwf⟩ := defaults_no_alias h hw c.1 c.2
    obtain ⟨h1, h2, h3⟩ := ih (applyDefaults h c.1 c.2).1 hwf
    have hnext : (applyDefaults h c.1 c.2).1.next = h.next + 1 := rfl
    refine ⟨h1, by simp only [List.foldl_cons]; omega, ?_⟩
    intro i hi
    simp only [List.foldl_cons]
    rw [h3 i (by omega)]
    exact hold i (by rw [hid]; omega)

/-! StringGrader registers {case_sensitive: False}, ItemGrader {wrong_msg: I, case_sensitive: X}; a grader is built with debug on -/
example :
    let h : Heap := ⟨[(0, [("case_sensitive", "False")]), (1, [("wrong_msg", "I"), ("case_sensitive", "X")])], 2⟩
    let r := applyDefaults h [some 0, some 1, none, none] [("answers", "cat"), ("debug", "True")]
    r.1.get r.2 = [("wrong_msg", "I"), ("case_sensitive", "False"), ("answers", "cat"), ("debug", "True")] ∧
    r.1.get 0 = [("case_sensitive", "False")] ∧ r.1.get 1 = [("wrong_msg", "I"), ("case_sensitive", "X")] ∧ r.2 = 2 := by
  decide +kernel

end C11
