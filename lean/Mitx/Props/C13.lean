import Mitx.Lemmas.Depend
import Mitx.Lemmas.DependFormula
/-! # C13 — sampled variable sets are complete and dependent values are consistent

Values `V` and every dependent's evaluator are arbitrary. The theorems here assume `Local` (a formula reads only the variables
it declares) of EVERY dependent of the type; the layer they rest on (`Dp.Run.spec`, `Dp.resolve_run`) asks it only of the
dependents at hand. `dependent_formula_local` at the end proves it for formula dependents. -/
namespace C13
open Dp

variable {V : Type}

/-- **Consistency and completeness on success**: the final sample extends the starting one (constants and
independent draws are never overwritten), defines exactly the dependents in addition, and every dependent's value
is its formula evaluated on the *final* sample. -/
theorem resolve_spec (hloc : ∀ d : Dep V, Local d) : ∀ (f : Nat) (ds : List (Dep V)) (env env' : Dict V),
    Fresh ds env → resolve f ds env = .inl env' →
    Extends env env' ∧ Solves ds env' ∧ (∀ x, env'.get x ≠ none → env.get x ≠ none ∨ ∃ d ∈ ds, d.name = x) := by
  intro f ds env env' hf h
  obtain ⟨done, hr⟩ := resolve_run f ds env
  rw [h] at hr
  obtain ⟨a, _, b, c⟩ := hr.2.spec (rest := []) (fun d _ => hloc d) (hf.perm (by simpa using hr.1.symm))
  exact ⟨a, fun d hd => b d (hr.1.symm.subset hd), fun x hx => (c x hx).imp_right fun ⟨d, hd, hn⟩ => ⟨d, hr.1.subset hd, hn⟩⟩

/-- **Failure is never fuel exhaustion and never a partial answer**: with fuel = number of dependents (what `genSample`
uses) the loop fails only after a whole pass without progress; then no remaining dependent has all its dependencies,
every other dependent *was* evaluated, and nothing else was defined. -/
theorem resolve_stuck (hloc : ∀ d : Dep V, Local d) : ∀ (f : Nat) (ds : List (Dep V)) (env e : Dict V) (stuck : List (Dep V)),
    Fresh ds env → ds.length ≤ f → resolve f ds env = .inr (e, stuck) →
    stuck ≠ [] ∧ (∀ d ∈ stuck, d ∈ ds) ∧ Extends env e ∧ (∀ d ∈ stuck, ready e d = false) ∧ Fresh stuck e ∧
    (∀ d ∈ ds, d ∉ stuck → e.get d.name ≠ none) ∧
    (∀ x, e.get x ≠ none → env.get x ≠ none ∨ ∃ d ∈ ds, d.name = x ∧ d ∉ stuck) := by
  intro f ds env e stuck hf hl h
  obtain ⟨done, hr⟩ := resolve_run f ds env
  rw [h] at hr
  obtain ⟨hp, hrun, hs⟩ := hr
  obtain ⟨a, b, c, d⟩ := hrun.spec (fun d _ => hloc d) (hf.perm hp.symm)
  -- an evaluated dependent is defined, a stuck one is not
  have hdef : ∀ d ∈ done, e.get d.name ≠ none ∧ d ∉ stuck := fun d hd =>
    have : e.get d.name ≠ none := by rw [c d hd]; exact Option.some_ne_none _
    ⟨this, fun m => this (b.1 d m)⟩
  exact ⟨(hs hl).1, fun d hd => hp.subset (List.mem_append_right _ hd), a, (hs hl).2, b,
    fun d hd hn => (hdef d ((List.mem_append.mp (hp.symm.subset hd)).resolve_right hn)).1,
    fun x hx => (d x hx).imp_right fun ⟨d, hd, hn⟩ => ⟨d, hp.subset (List.mem_append_left _ hd), hn, (hdef d hd).2⟩⟩

/-- the loop needs at most one pass per dependent: more fuel changes nothing -/
theorem resolve_fuel_irrelevant : ∀ (f g : Nat) (ds : List (Dep V)) (env : Dict V),
    ds.length ≤ f → ds.length ≤ g → resolve f ds env = resolve g ds env := by
  intro f g ds env hf hg
  fun_induction resolve f ds env generalizing g with
  | case1 => unfold resolve; rfl
  | case2 => exact absurd hf (Nat.not_succ_le_zero _)
  | case3 f d ds env r hlt ih =>
    obtain _ | g := g
    · exact absurd hg (Nat.not_succ_le_zero _)
    · rw [resolve, if_pos hlt]
      simp only [List.length_cons] at hf hg hlt
      exact ih g (by omega) (by omega)
  | case4 f d ds env r hlt =>
    obtain _ | g := g
    · exact absurd hg (Nat.not_succ_le_zero _)
    · rw [resolve, if_neg hlt]

theorem resolve_below_any_solution (e2 : Dict V) (f : Nat) (ds : List (Dep V)) (env e1 : Dict V) (hloc : ∀ d ∈ ds, Local d)
    (h : resolve f ds env = .inl e1) (hext : Extends env e2) (hs : Solves ds e2) : Extends e1 e2 := by
  refine resolve_preserves (Extends · e2) f ds env e1 (fun d hd e he hr x v hx => ?_) hext h
  by_cases hk : x = d.name
  · subst hk
    rw [get_set_self] at hx
    cases hx
    rw [hs d hd]
    exact congrArg some (eval_extends (hloc d hd) hr he).symm
  · rw [get_set_ne hk] at hx; exact he _ _ hx

/-- **Declaration order is irrelevant for the values** -/
theorem order_independent_values (hloc : ∀ d : Dep V, Local d) {ds ds' : List (Dep V)} {env e1 e2 : Dict V} {f g : Nat}
    (hp : ds.Perm ds') (hf : Fresh ds env)
    (h1 : resolve f ds env = .inl e1) (h2 : resolve g ds' env = .inl e2) : ∀ x, e1.get x = e2.get x := by
  have hf' : Fresh ds' env := hf.perm hp
  obtain ⟨a1, b1, _⟩ := resolve_spec hloc f ds env e1 hf h1
  obtain ⟨a2, b2, _⟩ := resolve_spec hloc g ds' env e2 hf' h2
  have s12 : Extends e1 e2 := resolve_below_any_solution e2 f ds env e1 (fun d _ => hloc d) h1 a2 (fun d hd => b2 d (hp.subset hd))
  have s21 : Extends e2 e1 := resolve_below_any_solution e1 g ds' env e2 (fun d _ => hloc d) h2 a1 (fun d hd => b1 d (hp.symm.subset hd))
  exact fun x => Option.ext fun v => ⟨s12 x v, s21 x v⟩

theorem resolve_dom_closed (P : String → Prop) (f : Nat) (ds : List (Dep V)) (env e1 : Dict V)
    (h : resolve f ds env = .inl e1)
    (h0 : ∀ x, env.get x ≠ none → P x) (hc : ∀ d ∈ ds, (∀ x ∈ d.deps, P x) → P d.name) :
    ∀ x, e1.get x ≠ none → P x := by
  refine resolve_preserves (fun e => ∀ x, e.get x ≠ none → P x) f ds env e1 (fun d hd e he hr x hx => ?_) h0 h
  by_cases hk : x = d.name
  · subst hk
    exact hc d hd fun y hy => he y (by obtain ⟨w, hw⟩ := ready_true hr y hy; rw [hw]; exact Option.some_ne_none _)
  · rw [get_set_ne hk] at hx; exact he x hx

/-- **Declaration order is irrelevant for success**: a configuration error is reported for every order or for none -/
theorem order_independent_success (hloc : ∀ d : Dep V, Local d) {ds ds' : List (Dep V)} {env e1 : Dict V} {f : Nat}
    (hp : ds.Perm ds') (hf : Fresh ds env) (h1 : resolve f ds env = .inl e1) :
    ∃ e2, resolve ds'.length ds' env = .inl e2 := by
  cases h2 : resolve ds'.length ds' env with
  | inl e2 => exact ⟨e2, rfl⟩
  | inr p =>
    exfalso
    obtain ⟨e, stuck⟩ := p
    obtain ⟨k1, k2, k3, k4, k5, k6, _⟩ := resolve_stuck hloc _ ds' env e stuck (hf.perm hp) (Nat.le_refl _) h2
    obtain ⟨_, b1, _⟩ := resolve_spec hloc f ds env e1 hf h1
    -- everything the successful run defines is defined in the stuck sample
    have hall := resolve_dom_closed (fun x => e.get x ≠ none) f ds env e1 h1 (fun x => k3.ne_none)
      (fun d hd hdeps => by
        by_cases hs : d ∈ stuck
        · obtain ⟨y, hy, hn⟩ := ready_false (k4 d hs)
          exact (hdeps y hy hn).elim
        · exact k6 d (hp.subset hd) hs)
    -- … a stuck dependent included
    obtain ⟨d0, hd0⟩ := List.exists_mem_of_ne_nil _ k1
    exact hall d0.name (by rw [b1 d0 (hp.symm.subset (k2 d0 hd0))]; exact Option.some_ne_none _) (k5.1 d0 hd0)

/-- "depend on undefined quantities" lists exactly the names some remaining dependent needs that are neither available
nor themselves remaining dependents, and there is such a name -/
theorem diagnose_undefined {e : Dict V} {stuck : List (Dep V)} {names : List String}
    (h : diagnose e stuck = .undefined names) :
    names ≠ [] ∧ ∀ x, x ∈ names ↔ (∃ d ∈ stuck, x ∈ d.deps) ∧ (∀ d ∈ stuck, d.name ≠ x) ∧ e.get x = none := by
  unfold diagnose at h
  simp only at h
  split at h
  · cases h
  · rename_i hne
    cases h
    obtain ⟨y, hy⟩ := List.exists_mem_of_ne_nil _ (mt List.isEmpty_iff.mpr hne)
    exact ⟨List.ne_nil_of_mem ((mem_sortedSet y _).mpr hy), fun x => (mem_sortedSet x _).trans mem_badItems⟩

/-- "circularly dependent" lists exactly the remaining dependents, and each of them waits for another remaining one
(following the waits never ends: a cycle) -/
theorem diagnose_circular {e : Dict V} {stuck : List (Dep V)} {names : List String}
    (h : diagnose e stuck = .circular names) (hstuck : ∀ d ∈ stuck, ready e d = false) :
    (∀ x, x ∈ names ↔ ∃ d ∈ stuck, d.name = x) ∧ ∀ d ∈ stuck, ∃ d' ∈ stuck, d'.name ∈ d.deps := by
  unfold diagnose at h
  simp only at h
  split at h
  · rename_i hemp
    cases h
    refine ⟨fun x => by rw [mem_sortedSet, List.mem_map], fun d hd => ?_⟩
    -- `d` lacks some dependency `y`; `y` is not among the bad items, so it is the name of a remaining dependent
    obtain ⟨y, hy, hn⟩ := ready_false (hstuck d hd)
    have hnb : y ∉ badItems e stuck := by rw [List.isEmpty_iff.mp hemp]; exact List.not_mem_nil
    have hex : ∃ d' ∈ stuck, d'.name = y := Classical.byContradiction fun hno =>
      hnb (mem_badItems.mpr ⟨⟨d, hd, hy⟩, fun d' hd' hname => hno ⟨d', hd', hname⟩, hn⟩)
    obtain ⟨d', hd', rfl⟩ := hex
    exact ⟨d', hd', hy⟩
  · cases h

theorem foldl_set_get (draws : List (String × V)) (d : Dict V) (x : String) :
    (draws.foldl (fun d p => d.set p.1 p.2) d).get x =
      match (draws.reverse.lookup x) with
      | some v => some v
      | none => d.get x := by
  induction draws generalizing d with
  | nil => rfl
  | cons p r ih =>
    obtain ⟨k, v⟩ := p
    rw [List.foldl_cons, List.reverse_cons, ih, List.lookup_append, get_set, lookup_cons_ite, List.lookup_nil]
    cases r.reverse.lookup x with
    | some w => rfl
    | none =>
      rw [Option.none_or]
      by_cases hx : x = k
      · rw [if_pos hx, if_pos hx]
      · rw [if_neg hx, if_neg hx]

/-- **Variables shadow constants, and every declared independent symbol carries its draw** -/
theorem baseDict_get (c : Dict V) (syms : List String) (draws : List (String × V)) (x : String) :
    (baseDict c syms draws).get x =
      match draws.reverse.lookup x with
      | some v => some v
      | none => if x ∈ syms then none else c.get x := by
  unfold baseDict
  rw [foldl_set_get, prune_get]

/-- **Whole sample**: on success the sample defines exactly the unshadowed constants, the independent symbols and the
dependents, and every dependent satisfies its equation on it -/
theorem genSample_ok (hloc : ∀ d : Dep V, Local d) {c : Dict V} {syms : List String} {draws : List (String × V)}
    {deps : List (Dep V)} {env' : Dict V}
    (hf : Fresh deps (baseDict c syms draws)) (h : genSample c syms draws deps = .ok env') :
    Extends (baseDict c syms draws) env' ∧ Solves deps env' ∧
    (∀ x, env'.get x ≠ none ↔ (baseDict c syms draws).get x ≠ none ∨ ∃ d ∈ deps, d.name = x) := by
  unfold genSample at h
  split at h
  · rename_i env hres
    cases h
    obtain ⟨a, b, cc⟩ := resolve_spec hloc _ _ _ _ hf hres
    refine ⟨a, b, fun x => ⟨cc x, ?_⟩⟩
    rintro (hx | ⟨d, hd, rfl⟩)
    · exact a.ne_none hx
    · rw [b d hd]; exact Option.some_ne_none _
  · cases h

/-- **Errors**: a configuration error is the diagnosis of dependents that could not be resolved -/
theorem genSample_error (hloc : ∀ d : Dep V, Local d) {c : Dict V} {syms : List String} {draws : List (String × V)}
    {deps : List (Dep V)} {fl : Failure}
    (hf : Fresh deps (baseDict c syms draws)) (h : genSample c syms draws deps = .error fl) :
    ∃ e stuck, stuck ≠ [] ∧ (∀ d ∈ stuck, d ∈ deps) ∧ (∀ d ∈ stuck, ready e d = false) ∧
      (∀ d ∈ deps, d ∉ stuck → e.get d.name ≠ none) ∧ fl = diagnose e stuck := by
  unfold genSample at h
  split at h
  · cases h
  · rename_i e stuck hres
    simp only [Except.error.injEq] at h
    obtain ⟨k1, k2, _, k4, _, k6, _⟩ := resolve_stuck hloc _ _ _ _ _ hf (Nat.le_refl _) hres
    exact ⟨e, stuck, k1, k2, k4, k6, h.symm⟩

theorem genSampleE_ok {isErr : V → Bool} {c : Dict V} {syms : List String} {draws : List (String × V)}
    {deps : List (Dep V)} {e : Dict V} (h : genSampleE isErr c syms draws deps = .ok e) :
    genSample c syms draws deps = .ok e ∧ ∀ d ∈ deps, ∀ v, (d.name, v) ∈ e → isErr v = false := by
  unfold genSampleE at h
  unfold genSample
  generalize resolve deps.length deps (baseDict c syms draws) = r at h ⊢
  rcases r with e0 | ⟨e0, stuck⟩
  · simp only at h
    split at h
    · cases h
    · rename_i hnone
      cases h
      refine ⟨rfl, fun d hd v hv => ?_⟩
      have := List.find?_eq_none.mp hnone (d.name, v) hv
      simp only [Bool.and_eq_true, List.any_eq_true, beq_iff_eq, not_and] at this
      exact Bool.of_not_eq_true fun hv' => this hv' ⟨d, hd, rfl⟩
  · simp only at h
    split at h <;> cases h

theorem genSampleE_fail {isErr : V → Bool} {c : Dict V} {syms : List String} {draws : List (String × V)}
    {deps : List (Dep V)} {f : Failure} (h : genSampleE isErr c syms draws deps = .fail f) :
    genSample c syms draws deps = .error f := by
  unfold genSampleE at h
  unfold genSample
  generalize resolve deps.length deps (baseDict c syms draws) = r at h ⊢
  rcases r with e0 | ⟨e0, stuck⟩
  · simp only at h
    split at h <;> cases h
  · simp only at h
    split at h
    · cases h
    · cases h; rfl

theorem numberedMatch_none {heads : List String} {s : String} (hm : numberedMatch heads s = none) :
    ∀ h ∈ heads, ¬ ∃ n, s.toList = h.toList ++ ['_', '{'] ++ n ++ ['}'] ∧ canonicalInt n = true := by
  unfold numberedMatch at hm
  intro h hh hex
  have := List.find?_eq_none.mp hm h hh
  exact this ((matchHead_iff _ _).mpr hex)

/-- **Numbered instances**: the variable list is the declared variables plus exactly the used, undeclared names that
read `head_{n}` for a registered head -/
theorem generateVariableList_spec (vars nv used : List String) (v : String) :
    v ∈ (generateVariableList vars nv used).1 ↔
      v ∈ vars ∨ (v ∈ used ∧ v ∉ vars ∧ ∃ h, numberedMatch nv v = some h) := by
  unfold generateVariableList
  simp only [List.mem_append, List.mem_map, List.mem_filterMap, List.mem_filter, Option.map_eq_some_iff]
  constructor
  · rintro (h | ⟨p, ⟨a, ⟨ha, hna⟩, h', hh, rfl⟩, rfl⟩)
    · exact Or.inl h
    · right; exact ⟨ha, by simpa using hna, h', hh⟩
  · rintro (h | ⟨hu, hn, h', hh⟩)
    · exact Or.inl h
    · right; exact ⟨(v, h'), ⟨v, ⟨hu, by simpa using hn⟩, h', hh, rfl⟩, rfl⟩

theorem generateVariableList_sampler (vars nv used : List String) (v h : String)
    (hm : (v, h) ∈ (generateVariableList vars nv used).2) : numberedMatch nv v = some h ∧ h ∈ nv := by
  unfold generateVariableList at hm
  simp only [List.mem_filterMap, List.mem_filter, Option.map_eq_some_iff] at hm
  obtain ⟨a, _, h', hh, heq⟩ := hm
  cases heq
  exact ⟨hh, (numberedMatch_some hh).1⟩

-- a diamond `d = b + c`, `b = a + 1`, `c = 2 a`, declared in the worst order
def exDeps : List (Dep Int) :=
  [⟨"d", ["b", "c"], fun e => (e.get "b").getD 0 + (e.get "c").getD 0⟩,
   ⟨"c", ["a"], fun e => 2 * (e.get "a").getD 0⟩,
   ⟨"b", ["a"], fun e => (e.get "a").getD 0 + 1⟩]

example : genSample [("pi", 3), ("a", 99)] ["a", "d", "c", "b"] [("a", 5)] exDeps =
    .ok [("pi", 3), ("a", 5), ("c", 10), ("b", 6), ("d", 16)] := by rfl

example : genSample ([] : Dict Int) ["x", "y"] []
    [⟨"x", ["y"], fun _ => 0⟩, ⟨"y", ["x"], fun _ => 0⟩] = .error (.circular ["x", "y"]) := by rfl

example : genSample ([] : Dict Int) ["x"] [] [⟨"x", ["zz", "q"], fun _ => 0⟩] = .error (.undefined ["q", "zz"]) := by rfl

example : numberedMatch ["b", "Cat"] "Cat_{-17}" = some "Cat" ∧ numberedMatch ["b"] "b_{05}" = none ∧
    numberedMatch ["b"] "B_{0}" = none ∧ numberedMatch ["b"] "b_{-0}" = none := by decide +kernel

/-- **`Local` is a theorem for formula dependents**: two samples that agree on the variable names occurring in the formula
(its `depends`) give the same value, by the substitution lemma `evalT_mapVars` (for the rational evaluator with
failing values propagated) -/
theorem dependent_formula_local (name : String) (t : C03.T) : Local (formulaDep name t) := by
  intro e1 e2 hagree
  have key := C03.evalT_mapVars (depAlg e2) (fun s => (e1.get s).getD (.err "undef-var")) id t (by
    intro s hs
    have := hagree s (mem_varNames.mpr hs)
    simp only [id, depAlg, C03.Alg.withVar, this])
  rw [mapVars_id] at key
  simpa [formulaDep, depAlg, C03.Alg.withVar] using key

theorem dependent_formula_deps (name : String) (t : C03.T) (s : String) :
    s ∈ (formulaDep name t).deps ↔ (C03.Kind.var, s) ∈ C03.names t :=
  mem_varNames

end C13
