import Mitx.Lemmas.Check
import Mitx.Lemmas.Optimal
import Mitx.Lemmas.PermInv
import Mathlib.Algebra.BigOperators.Fin
/-! # C07 — SingleListGrader scores a delimited list by the documented credit formula

Model: `Gr.slCheckResponse`, `Gr.processGradeList`, `Gr.consolidateGrades`, `Gr.findOptimalOrder` for an arbitrary
subgrader `sub` (its `check`). -/
namespace C07
open Gr Finset

/-- the credit switch of `partial_credit=False`: anything short of full item credit scores zero -/
def credit (partialCredit : Bool) (g : ℚ) : ℚ := if !partialCredit && g < 1 then 0 else g

/-- `consolidate_grades`: −1 per surplus item, 0 per missing item, divide by the number of expected items, never negative. -/
theorem consolidateGrades_formula (l : List ℚ) (n : ℕ) :
    consolidateGrades l n = max 0 ((l.sum - ((l.length - n : ℕ) : ℚ)) / n) := by
  have hsub : (if l.length > n then l.sum - ((l.length - n : ℕ) : ℚ) else l.sum) = l.sum - ((l.length - n : ℕ) : ℚ) := by
    split_ifs with h
    · rfl
    · rw [Nat.sub_eq_zero_of_le (not_lt.mp h), Nat.cast_zero, sub_zero]
  unfold consolidateGrades
  simp only [← List.sum_eq_foldl, hsub]
  split_ifs with h
  · exact (max_eq_left h.le).symm
  · exact (max_eq_right (not_lt.mp h)).symm

theorem processGradeList_spec (cfg : SLCfg) (gl : List IRes) (n : ℕ) (m : AnsMeta) :
    (processGradeList cfg gl n m).grade = m.grade * credit cfg.partialCredit (consolidateGrades (gl.map (·.grade)) n) ∧
    (processGradeList cfg gl n m).ok = At.gradeToOk (processGradeList cfg gl n m).grade ∧
    ((processGradeList cfg gl n m).msg =
      if (processGradeList cfg gl n m).allAwarded && m.msg != "" then
        (if joinNonEmpty "\n" (gl.map (·.msg)) == "" then m.msg else joinNonEmpty "\n" (gl.map (·.msg)) ++ "\n" ++ m.msg)
      else joinNonEmpty "\n" (gl.map (·.msg))) ∧
    (cfg.subIsSingleList = false → ((processGradeList cfg gl n m).allAwarded = true ↔ ∀ r ∈ gl, r.grade > 0)) :=
  ⟨mul_comm _ _, rfl, rfl, fun h => by
    unfold processGradeList
    simp only [h, Bool.false_eq_true, if_false, List.all_eq_true, decide_eq_true_eq]⟩

/-- the message is the joined item messages, with or without the answer-level message appended -/
theorem single_list_msg (cfg : SLCfg) (gl : List IRes) (n : ℕ) (m : AnsMeta) (hsub : cfg.subIsSingleList = false)
    (hm : m.msg ≠ "") :
    ((processGradeList cfg gl n m).msg = (if joinNonEmpty "\n" (gl.map (·.msg)) == "" then m.msg
        else joinNonEmpty "\n" (gl.map (·.msg)) ++ "\n" ++ m.msg)) ∨
      (processGradeList cfg gl n m).msg = joinNonEmpty "\n" (gl.map (·.msg)) := by
  rw [(processGradeList_spec cfg gl n m).2.2.1]
  split
  · exact Or.inl rfl
  · exact Or.inr rfl

theorem length_error_first {α : Type} (cfg : SLCfg) (sub : α → String → M IRes) (m : AnsMeta) (items : List α) (inp : String)
    (h1 : cfg.lengthError = true) (h2 : items.length ≠ (pySplit inp cfg.delimiter).length) :
    ∃ msg, slCheckResponse cfg sub m items inp = .error (Err.missingInput msg) := by
  unfold slCheckResponse
  rw [if_pos (by simp [h1, h2])]
  exact ⟨_, rfl⟩

/-- 1-based positions of the blank items of a submission -/
def blankPositions (l : List String) : List ℕ := (l.zipIdx.filter (fun p => pyStrip p.1 == "")).map (fun p => p.2 + 1)

theorem missing_error {α : Type} (cfg : SLCfg) (sub : α → String → M IRes) (m : AnsMeta) (items : List α) (inp : String)
    (h0 : ¬ (cfg.lengthError = true ∧ items.length ≠ (pySplit inp cfg.delimiter).length))
    (h1 : cfg.missingError = true) (h2 : blankPositions (pySplit inp cfg.delimiter) ≠ []) :
    slCheckResponse cfg sub m items inp = .error (Err.missingInput
      ((if (blankPositions (pySplit inp cfg.delimiter)).length == 1 then "List error: Empty entry detected in position "
        else "List error: Empty entries detected in positions ") ++ natList (blankPositions (pySplit inp cfg.delimiter)))) := by
  have hne : (!(blankPositions (pySplit inp cfg.delimiter)).isEmpty) = true := by
    rw [Bool.not_eq_true', ← Bool.not_eq_true, List.isEmpty_iff]; exact h2
  unfold slCheckResponse
  simp only [Except.throw_bind]
  rw [if_neg (by simpa only [Bool.and_eq_true, bne_iff_ne] using h0), if_pos h1]
  exact if_pos hne

-- an alias of `Gr.padTo_length'`: the statements below mention this name, and `Lemmas/PermInv` cannot import this file
theorem padTo_length {α : Type} (n : ℕ) (l : List α) (h : l.length ≤ n) : (padTo n l).length = n :=
  padTo_length' n l h

theorem slCheckResponse_grade {α : Type} {cfg : SLCfg} {sub : α → String → M IRes} {m : AnsMeta} {items : List α} {inp : String} {out : IRes}
    (h : slCheckResponse cfg sub m items inp = .ok out) :
    ∃ gl, slGradeList cfg sub items inp = .ok gl ∧ out.ok = At.gradeToOk out.grade ∧
      out.grade = m.grade * credit cfg.partialCredit
        (max 0 (((gl.map (·.grade)).sum - ((gl.length - items.length : ℕ) : ℚ)) / items.length)) := by
  rw [slCheckResponse_eq, Except.map_eq_ok_iff] at h
  obtain ⟨gl, hgl, rfl⟩ := h
  exact ⟨gl, hgl, rfl, by rw [(processGradeList_spec cfg gl items.length m).1, consolidateGrades_formula, List.length_map]⟩

/-- **Unordered lists: the documented formula.** With `n = max(#expected, #submitted)` and `R i j` the padded
    check of submitted item `i` against expected item `j` (padding = automatic failure, credit 0), the grade is
    `answer credit × credit( max 0 ((best − surplus) / #expected) )` where `best` is the total item credit of an
    assignment that no other one-to-one assignment beats. -/
theorem single_list_formula_unordered {α : Type} {cfg : SLCfg} {sub : α → String → M IRes} {m : AnsMeta} {items : List α}
    {inp : String} {out : IRes} (hord : cfg.ordered = false) (hpos : 0 < items.length)
    (h : slCheckResponse cfg sub m items inp = .ok out) :
    let sl := pySplit inp cfg.delimiter
    let n := max items.length sl.length
    ∃ (R : Fin n → Fin n → IRes) (τ : Equiv.Perm (Fin n)),
      (∀ i j : Fin n, paddedCheck sub ((padTo n items)[j.1]'(by rw [padTo_length n items (le_max_left _ _)]; exact j.2))
          ((padTo n sl)[i.1]'(by rw [padTo_length n sl (le_max_right _ _)]; exact i.2)) = .ok (R i j)) ∧
      (∀ σ : Equiv.Perm (Fin n), ∑ i, (R i (σ i)).grade ≤ ∑ i, (R i (τ i)).grade) ∧
      out.grade = m.grade * credit cfg.partialCredit
        (max 0 ((∑ i, (R i (τ i)).grade - ((n - items.length : ℕ) : ℚ)) / items.length)) := by
  intro sl n
  obtain ⟨gl, hgl, -, hout⟩ := slCheckResponse_grade h
  have hgl := slGradeList_ok hgl
  simp only [hord, Bool.false_eq_true, ↓reduceIte] at hgl
  obtain ⟨R, τ, hR, rfl, hopt⟩ := findOptimalOrder_optimal (grade := fun r : IRes => r.grade)
    (lt_of_lt_of_le hpos (le_max_left _ _)) (padTo_length n items (le_max_left _ _)) (padTo_length n sl (le_max_right _ _)) hgl
  refine ⟨R, τ, hR, hopt, ?_⟩
  rw [hout, List.map_ofFn, List.sum_ofFn, List.length_ofFn]
  rfl

/-- **Ordered lists**: positional pairing on the padded lists. -/
theorem single_list_formula_ordered {α : Type} {cfg : SLCfg} {sub : α → String → M IRes} {m : AnsMeta} {items : List α}
    {inp : String} {out : IRes} (hord : cfg.ordered = true)
    (h : slCheckResponse cfg sub m items inp = .ok out) :
    let sl := pySplit inp cfg.delimiter
    let n := max items.length sl.length
    ∃ gl : List IRes, List.Forall₂ (fun p r => paddedCheck sub p.1 p.2 = .ok r) ((padTo n items).zip (padTo n sl)) gl ∧
      out.grade = m.grade * credit cfg.partialCredit
        (max 0 (((gl.map (·.grade)).sum - ((n - items.length : ℕ) : ℚ)) / items.length)) := by
  intro sl n
  obtain ⟨gl, hgl, -, hout⟩ := slCheckResponse_grade h
  have hgl := slGradeList_ok hgl
  simp only [hord, ↓reduceIte] at hgl
  have hf := List.mapM_eq_ok_iff.mp hgl
  refine ⟨gl, hf, ?_⟩
  rw [hout, ← hf.length_eq, List.length_zip, padTo_length n items (le_max_left _ _), padTo_length n sl (le_max_right _ _),
    min_self]

/-- With `partial_credit=False` the grade is the answer's credit or zero. -/
theorem single_list_no_partial (cfg : SLCfg) (gl : List IRes) (n : ℕ) (m : AnsMeta) (hpc : cfg.partialCredit = false) :
    (processGradeList cfg gl n m).grade = 0 ∨
      ((processGradeList cfg gl n m).grade = m.grade * consolidateGrades (gl.map (·.grade)) n ∧
        1 ≤ consolidateGrades (gl.map (·.grade)) n) := by
  rw [(processGradeList_spec cfg gl n m).1]
  unfold credit
  by_cases hlt : consolidateGrades (gl.map (·.grade)) n < 1
  · left; simp [hpc, hlt]
  · right; simp [hlt]; exact not_lt.mp hlt

/-- **Permutation invariance (unordered lists).** Submitting the same items in a different order — `π` is any
    permutation of the positions of the delimiter-separated items — never changes the grade or `ok`. -/
theorem single_list_perm_invariant {α : Type} {cfg : SLCfg} {sub : α → String → M IRes} {m : AnsMeta} {items : List α}
    {inp₁ inp₂ : String} {out₁ out₂ : IRes} (hord : cfg.ordered = false) (hpos : 0 < items.length) {k : ℕ}
    (h1 : (pySplit inp₁ cfg.delimiter).length = k) (h2 : (pySplit inp₂ cfg.delimiter).length = k)
    (π : Equiv.Perm (Fin k))
    (hπ : ∀ i : Fin k, (pySplit inp₂ cfg.delimiter)[i.1]'(by rw [h2]; exact i.2) =
      (pySplit inp₁ cfg.delimiter)[(π i).1]'(by rw [h1]; exact (π i).2))
    (r1 : slCheckResponse cfg sub m items inp₁ = .ok out₁) (r2 : slCheckResponse cfg sub m items inp₂ = .ok out₂) :
    out₁.grade = out₂.grade ∧ out₁.ok = out₂.ok := by
  obtain ⟨gl₁, hg₁, ho₁, hgr₁⟩ := slCheckResponse_grade r1
  obtain ⟨gl₂, hg₂, ho₂, hgr₂⟩ := slCheckResponse_grade r2
  have hg₁ := slGradeList_ok hg₁
  have hg₂ := slGradeList_ok hg₂
  simp only [hord, Bool.false_eq_true, ↓reduceIte, h1, h2] at hg₁ hg₂
  have hkn : k ≤ max items.length k := le_max_right _ _
  obtain ⟨hsum, hlen⟩ := findOptimalOrder_perm_invariant (grade := fun r : IRes => r.grade)
    (lt_of_lt_of_le hpos (le_max_left _ _)) (padTo_length _ items (le_max_left _ _)) (padTo_length _ _ (h1.trans_le hkn))
    (padTo_length _ _ (h2.trans_le hkn)) (extendPerm hkn π) (padTo_perm hkn h1 h2 π hπ) hg₁ hg₂
  have hg : out₁.grade = out₂.grade := by rw [hgr₁, hgr₂, hsum, hlen]
  exact ⟨hg, by rw [ho₁, ho₂, hg]⟩

end C07
