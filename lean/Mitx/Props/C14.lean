import Mitx.Model.MathArray
/-! # C14 — array arithmetic follows strict linear-algebra shape rules and values

Model: `Ma.add/sub/mul/div/pow` (MathArray operators incl. reflected forms) and `Ma.evalProduct` (triple vector rule).
The theorems are about every shape and every entry list (no bound on dimensions or sizes). -/
namespace C14
open Ma Tl Cm

def isZeroLike : AV → Bool
  | .num z => cIsZero z
  | .arr s d => numberlike s && cIsZero (d.headD C.zero)

def shapeOf : AV → List Nat
  | .num _ => []
  | .arr s _ => s

def isShapeErr : R → Bool
  | .error (.shape _) => true
  | _ => false

def isMathErr : R → Bool
  | .error (.math _) => true
  | _ => false

theorem add_arr_arr (s s2 : List Nat) (d d2 : List C) : add (.arr s d) (.arr s2 d2) =
    if isZeroLike (.arr s2 d2) then .ok (.arr s d)
    else if s = s2 then .ok (.arr s (zipC C.add d d2))
    else if isZeroLike (.arr s d) then .ok (.arr s2 d2)
    else .error (.shape "Cannot add/subtract arrays of different shapes.") := rfl

theorem add_same_shape (s : List Nat) (d d2 : List C) (h : isZeroLike (.arr s d2) = false) :
    add (.arr s d) (.arr s d2) = .ok (.arr s (zipC C.add d d2)) := by
  rw [add_arr_arr, h, if_neg Bool.false_ne_true, if_pos rfl]

/-- **No broadcasting**: arrays of different shapes are never added, unless one of them is a one-element zero -/
theorem no_broadcast (s s2 : List Nat) (d d2 : List C) (hs : s ≠ s2)
    (h1 : isZeroLike (.arr s d) = false) (h2 : isZeroLike (.arr s2 d2) = false) :
    isShapeErr (add (.arr s d) (.arr s2 d2)) = true := by
  rw [add_arr_arr, h1, h2, if_neg Bool.false_ne_true, if_neg hs, if_neg Bool.false_ne_true]
  rfl

theorem add_nonzero_scalar_error (s : List Nat) (d : List C) (z : C) (hz : cIsZero z = false) (hn : numberlike s = false) :
    isShapeErr (add (.arr s d) (.num z)) = true ∧ isShapeErr (add (.num z) (.arr s d)) = true := by
  constructor <;> simp [add, addArr, hz, hn, isShapeErr]

theorem add_zero_identity (s : List Nat) (d : List C) (z : C) (hz : cIsZero z = true) :
    add (.arr s d) (.num z) = .ok (.arr s d) ∧ add (.num z) (.arr s d) = .ok (.arr s d) := by
  constructor <;> simp [add, addArr, hz]

/-- a successful sum of two arrays never has a broadcast shape -/
theorem add_result_shape (s s2 : List Nat) (d d2 : List C) (r : AV) (h : add (.arr s d) (.arr s2 d2) = .ok r) :
    shapeOf r = s ∨ shapeOf r = s2 := by
  rw [add_arr_arr] at h
  split at h
  · cases h; exact .inl rfl
  split at h
  · cases h; exact .inl rfl
  split at h
  · cases h; exact .inr rfl
  · cases h

theorem sub_eq_add_neg (a b : AV) : sub a b = add a (scale ⟨-1, 0⟩ b) := rfl

theorem mul_scalar_scales (s : List Nat) (d : List C) (z : C) :
    mul (.arr s d) (.num z) = .ok (.arr s (d.map (C.mul z))) ∧ mul (.num z) (.arr s d) = .ok (.arr s (d.map (C.mul z))) := by
  constructor <;> simp [mul, scale]

/-- the linear-algebra result shape of a product of arrays of dimension ≤ 2 (`[]` = a number), `none` = incompatible -/
def prodShape : List Nat → List Nat → Option (List Nat)
  | [n], [m] => if n = m then some [] else none
  | [r, n], [m] => if n = m then some [r] else none
  | [n], [m, c] => if n = m then some [c] else none
  | [r, n], [m, c] => if n = m then some [r, c] else none
  | _, _ => none

def collapse (s : List Nat) : List Nat := if numberlike s then [] else s

theorem dotShapes_shape (s1 s2 : List Nat) (d1 d2 : List C) :
    (dotShapes s1 d1 s2 d2).map shapeOf = prodShape s1 s2 := by
  fun_cases prodShape s1 s2 <;> simp only [dotShapes, *, if_true, if_false, Option.map, shapeOf]

/-- **Products follow the dot / matrix-vector / vector-matrix / matrix-matrix shape rules or fail**: for operands with more
than one element and at most two axes, the product exists exactly when the inner dimensions agree, and then has the
linear-algebra shape (a 1×1 or length-1 result becoming a number) -/
theorem mul_shape_rule (s1 s2 : List Nat) (d1 d2 : List C) (h1 : numberlike s1 = false) (h2 : numberlike s2 = false)
    (hd : s1.length ≤ 2 ∧ s2.length ≤ 2) :
    (prodShape s1 s2 = none → isShapeErr (mul (.arr s1 d1) (.arr s2 d2)) = true) ∧
    (∀ sh, prodShape s1 s2 = some sh → ∃ v, mul (.arr s1 d1) (.arr s2 d2) = .ok v ∧ shapeOf v = collapse sh) := by
  have hlen : ¬ (s1.length > 2 ∨ s2.length > 2) := by omega
  rw [← dotShapes_shape s1 s2 d1 d2]
  cases hv : dotShapes s1 d1 s2 d2 with
  | none => exact ⟨fun _ => by simp [mul, h1, h2, hlen, hv, isShapeErr], nofun⟩
  | some v =>
    refine ⟨nofun, ?_⟩
    rintro sh ⟨rfl⟩
    cases v with
    | num z => exact ⟨.num z, by simp [mul, h1, h2, hlen, hv], rfl⟩
    | arr s d =>
      by_cases hc : numberlike s = true
      · exact ⟨.num (d.headD C.zero), by simp [mul, h1, h2, hlen, hv, hc], by simp [shapeOf, collapse, hc]⟩
      · exact ⟨.arr s d, by simp [mul, h1, h2, hlen, hv, hc], by simp [shapeOf, collapse, hc]⟩

theorem tensor_mul_refused (s1 s2 : List Nat) (d1 d2 : List C) (h1 : numberlike s1 = false) (h2 : numberlike s2 = false)
    (hd : s1.length > 2 ∨ s2.length > 2) : isMathErr (mul (.arr s1 d1) (.arr s2 d2)) = true := by
  simp [mul, h1, h2, hd, isMathErr]

theorem div_by_array_error (a : AV) (s2 : List Nat) (d2 : List C) (h : numberlike s2 = false) :
    isShapeErr (div a (.arr s2 d2)) = true := by
  cases a with
  | num z => rfl
  | arr s d => simp [div, h, isShapeErr]

theorem div_by_scalar (s : List Nat) (d : List C) (z : C) (hz : cIsZero z = false) :
    div (.arr s d) (.num z) = .ok (.arr s (d.map (C.mul (cinv z)))) := by
  simp [div, hz, scale]

theorem pow_vector_or_tensor_error (np : Bool) (s : List Nat) (d : List C) (e : AV) (ct : Bool)
    (hn : numberlike s = false) (hd : s.length ≠ 2) : isShapeErr (pow np (.arr s d) e ct) = true := by
  simp [pow, hn, hd, isShapeErr]

theorem pow_nonsquare_error (np : Bool) (r c : Nat) (d : List C) (e : AV) (ct : Bool)
    (hn : numberlike [r, c] = false) (hrc : r ≠ c) : isShapeErr (pow np (.arr [r, c] d) e ct) = true := by
  simp [pow, hn, hrc, isShapeErr]

theorem pow_noninteger_error (np : Bool) (n : Nat) (d : List C) (z : C) (ct : Bool)
    (hn : numberlike [n, n] = false) (hz : expoOf z ct = .nonInteger) :
    isMathErr (pow np (.arr [n, n] d) (.num z) ct) = true := by
  simp [pow, hn, hz, isMathErr]

theorem pow_array_exponent_error (np : Bool) (n : Nat) (d : List C) (s2 : List Nat) (d2 : List C) (ct : Bool)
    (hn : numberlike [n, n] = false) (h2 : numberlike s2 = false) :
    isShapeErr (pow np (.arr [n, n] d) (.arr s2 d2) ct) = true := by
  simp [pow, hn, h2, isShapeErr]

/-- **Negative matrix powers are refused while they are disabled** -/
theorem neg_pow_disabled_error (n : Nat) (d : List C) (z : C) (k : Int) (ct : Bool)
    (hn : numberlike [n, n] = false) (hz : expoOf z ct = .int k) (hk : k < 0) :
    isMathErr (pow false (.arr [n, n] d) (.num z) ct) = true := by
  simp [pow, hn, hz, hk, isMathErr]

/-- a successful matrix power has the shape of the base; non-negative powers are repeated products starting from the identity -/
theorem pow_nonneg_value (np : Bool) (n : Nat) (d : List C) (z : C) (k : Int) (ct : Bool)
    (hn : numberlike [n, n] = false) (hz : expoOf z ct = .int k) (hk : 0 ≤ k) :
    pow np (.arr [n, n] d) (.num z) ct = .ok (.arr [n, n] (matPow n d k.toNat)) := by
  have : ¬ (k < 0) := by omega
  simp [pow, hn, hz, this, hk]

theorem matPow_succ (n : Nat) (a : List C) (k : Nat) : matPow n a (k + 1) = matMul n (matPow n a k) a := rfl

/-- negative powers (when enabled) are powers of the inverse, singular matrices are refused -/
theorem pow_neg_value (n : Nat) (d : List C) (z : C) (k : Int) (ct : Bool)
    (hn : numberlike [n, n] = false) (hz : expoOf z ct = .int k) (hk : k < 0) :
    pow true (.arr [n, n] d) (.num z) ct = match inverse n d with
      | none => .error (.math "Cannot raise singular matrix to negative powers.")
      | some inv => .ok (.arr [n, n] (matPow n inv (-k).toNat)) := by
  have : ¬ (0 ≤ k) := by omega
  cases hi : inverse n d <;> simp [pow, hn, hz, hk, this, hi]

theorem scalar_to_array_power_error (np : Bool) (x : C) (s : List Nat) (d : List C) (ct : Bool) (hn : numberlike s = false) :
    isShapeErr (pow np (.num x) (.arr s d) ct) = true := by
  simp [pow, hn, isShapeErr]

/-- once a vector·vector product has occurred in a chain, a further `* vector` is refused as ambiguous -/
theorem triple_vector_refused_step (acc v : AV) (rest : List (POp × AV)) (hv : isVector v = true) :
    isMathErr (evalProductLoop acc true ((.times, v) :: rest)) = true := by
  simp [evalProductLoop, hv, isMathErr]

/-- `u * v * w` is refused for three vectors, although `u * v` is a number and `number * w` would be defined -/
theorem triple_vector_refused (n : Nat) (d1 d2 d3 : List C) (rest : List (POp × AV)) (hn : numberlike [n] = false) :
    isMathErr (evalProduct (.arr [n] d1) ((.times, .arr [n] d2) :: (.times, .arr [n] d3) :: rest)) = true := by
  have hmul : mul (.arr [n] d1) (.arr [n] d2) = .ok (.num (sumC (zipC C.mul d1 d2))) := by
    simp [mul, hn, dotShapes]
  -- the first product is vector·vector: the loop goes on with `seen = true`, and the next factor is a vector
  rw [evalProduct, evalProductLoop, if_neg (by simp), hmul]
  exact triple_vector_refused_step (.num (sumC (zipC C.mul d1 d2))) (.arr [n] d3) rest rfl

def okIs (r : R) (v : AV) : Bool := match r with | .ok w => w == v | _ => false

example : okIs (mul (.arr [2, 2] [⟨1,0⟩, ⟨2,0⟩, ⟨3,0⟩, ⟨4,0⟩]) (.arr [2] [⟨1,0⟩, ⟨1,0⟩])) (.arr [2] [⟨3,0⟩, ⟨7,0⟩]) = true := by decide +kernel
example : okIs (pow true (.arr [2, 2] [⟨2,0⟩, ⟨0,0⟩, ⟨0,0⟩, ⟨4,0⟩]) (.num ⟨-1,0⟩)) (.arr [2, 2] [⟨1/2,0⟩, ⟨0,0⟩, ⟨0,0⟩, ⟨1/4,0⟩]) = true := by decide +kernel
example : isMathErr (pow true (.arr [2, 2] [⟨1,0⟩, ⟨2,0⟩, ⟨2,0⟩, ⟨4,0⟩]) (.num ⟨-1,0⟩)) = true := by decide +kernel

end C14
