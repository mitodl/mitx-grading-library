import Mitx.Lemmas.ParserState
import Mitx.Parser.UsageInv
import Mitx.Parser.Erase
import Mitx.Lemmas.ParserHeap
/-! # C10 — reported name usage is exact and parsing is independent of parse history -/
namespace C10
open C03 PS

/-- **Exact usage.** When the side-effecting parser accepts, the names collected in its scratch (never rolled back when
    pyparsing abandons an alternative) are exactly those of the resulting tree, kind by kind. -/
theorem usage_exact {ts : List Tok} {t : T} {sc : Sc} (h : parseUsage ts = some (t, sc)) :
    ∀ x, x ∈ sc ↔ x ∈ names t := C03.usage_exact h

/-- the side-effecting parser and the pure parser build the same tree -/
theorem usage_tree {ts : List Tok} {t : T} {sc : Sc} (h : parseUsage ts = some (t, sc)) : parseToks ts = some t :=
  C03.parseUsage_tree h

/-- what a caller can observe of one `parse` call -/
def view : Outcome → Option Expr × Option String
  | .ok e => (some e, none)
  | .unableToParse o => (none, some o)

/-- **History independence.** After any sequence of `parse` calls, valid or not, a `parse` on the same parser object
    yields what a fresh parser yields: the same tree and names, or the same error naming the string as submitted. -/
theorem history_independent (h : List String) (s : String) :
    view (parse (runHistory init h) s).2 = view (parse init s).2 :=
  congrArg view (parse_of_inv (Inv.init.history h) s).2

/-- spaces never matter: two spellings with the same space-stripped form share the cache entry and the result -/
theorem spaces_share_cache (st : St) (s s' : String) (h : stripSpaces s = stripSpaces s') :
    (view (parse st s).2).1 = (view (parse st s').2).1 := by
  unfold parse
  rw [h]
  cases hl : st.cache.lookup (stripSpaces s') with
  | some e => simp [view, hl]
  | none =>
    rcases hres : rawParse st (stripSpaces s') with ⟨st', r⟩
    cases r <;> simp [view, hl, hres]

/-- with a stale scratch (a missing `reset_storage`) the reported names are wrong: `scratch_empty` is a real obligation -/
example : ((rawParse { cache := [], scratch := [(Kind.var, "stale")] } "x").2.map (·.2)) = some [(Kind.var, "stale"), (Kind.var, "x")] := by
  decide +kernel

/-- **Object-level history independence.** In the object-identity model (parse actions mutate the set objects bound to
    the parser, a `MathExpression` holds those objects, `reset_storage` binds fresh ones) an observer reads after any
    history what a fresh parser yields. -/
theorem object_history_independent (h : List String) (s : String) :
    view (PH.absOut (PH.parse .rebind (PH.runHistory .rebind PH.init h) s).1 (PH.parse .rebind (PH.runHistory .rebind PH.init h) s).2)
      = view (parse init s).2 := by
  obtain ⟨hw, ha⟩ := PH.history_refines PH.WF.init h
  obtain ⟨_, _, ho⟩ := PH.parse_refines hw s
  rw [ho, ha]
  exact history_independent h s

/-- **Cached expressions are never altered by later parses**: the names read through a cached expression stay the same
    whatever string is parsed next — because the reset *rebinds* the parser's sets instead of clearing them. -/
theorem cache_alias_safe {st : PH.HSt} (hw : PH.WF st) (k : String) (e : T × Nat) (he : (k, e) ∈ st.cache) (s : String) :
    PH.readExpr (PH.parse .rebind st s).1 e = PH.readExpr st e := by
  unfold PH.parse
  cases hc : st.cache.lookup (stripSpaces s) with
  | some e' => simp only [hc]
  | none =>
    simp only [hc]
    rw [PH.rawParse_rebind_eq]
    cases (runOn (PH.hget st.heap st.scratch) (stripSpaces s)).1 <;> exact PH.readExpr_rebound hw _ he

theorem cache_alias_safe_history (h : List String) : PH.WF (PH.runHistory .rebind PH.init h) :=
  (PH.history_refines PH.WF.init h).1

/-- `reset_storage → .clear()` is refuted: the expression just cached for `"x"` aliases the cleared object and loses its
    names; with rebinding it keeps them -/
example : let st := (PH.parse .clear PH.init "x").1
    st.cache.map (fun p => (PH.readExpr st p.2).2) = [[]] := by decide +kernel
example : let st := (PH.parse .rebind PH.init "x").1
    st.cache.map (fun p => (PH.readExpr st p.2).2) = [[(Kind.var, "x")]] := by decide +kernel

end C10
