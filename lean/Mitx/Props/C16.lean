import Mitx.Lemmas.Comparers
import Mitx.Lemmas.LeastSquares
import Mathlib.Tactic.Linarith
import Mathlib.Tactic.Ring
/-! # C16 — each built-in comparer accepts exactly its documented equivalence class

Model: `Cm.between`, `Cm.congruence`, `Cm.eigenvector`, `Cm.vectorSpan`, `Cm.vectorPhase`, `Cm.matrixEntry`,
`Cm.linearComparer`. Exact Gaussian rationals; `np.linalg.lstsq` is an input (squared residual). -/
namespace C16
open Cm Tl

theorem between_iff (a b : Rat) (x : C) : between a b x = .ok true ↔ x.im = 0 ∧ a ≤ x.re ∧ x.re ≤ b := by
  unfold between
  by_cases h : x.im = 0
  · simp [h]
  · simp [h]

theorem between_complex_refused (a b : Rat) (x : C) (h : x.im ≠ 0) : ∃ m, between a b x = .error (.inputType m) := by
  simp [between, h]

/-- **Congruence is circular**: with an absolute tolerance `t` and a positive modulus, a value is accepted exactly when it
is within `t` of `expected + k·modulus` for some integer `k` — values just either side of a multiple of the modulus alike -/
theorem congruence_iff (e m s t : Rat) (hm : 0 < m) :
    congruence e m s (.abs t) = true ↔ 0 ≤ t ∧ ∃ k : Int, |s - e - (k : Rat) * m| ≤ t := by
  simp only [congruence, not_lt.mpr hm.le, if_false, withinReal, Bool.and_eq_true, decide_eq_true_eq, pymod_wrap _ m hm,
    ← nearest_multiple _ m t hm]
  refine and_congr_right fun ht => ?_
  -- the model squares the wrapped distance `d` and tests `(e − (e + d))² ≤ t²`
  rw [sub_add_cancel_left, neg_mul_neg, sq_le_sq_iff_abs ht, abs_abs]

/-- **Exact eigenvector test** (tolerance 0): accepted iff the vector is nonzero and `M v = λ v` -/
theorem eigenvector_iff (m : List (List C)) (ev : C) (v : List C) (hlen : m.length = v.length) :
    eigenvector m ev v (.abs 0) = .accept ↔ (∃ z ∈ v, z ≠ (⟨0, 0⟩ : C)) ∧ mulVec m v = smul ev v := by
  have hl : (mulVec m v).length = (smul ev v).length := by simp [mulVec, smul, hlen]
  simp only [eigenvector_accept_iff, normNearlyZero, leTol, le_refl, decide_true, mul_zero, Bool.true_and, decide_eq_false_iff_not,
    decide_eq_true_eq, LE.le.ge_iff_eq' (sqnorm_nonneg _), sqnorm_subL_eq_zero _ _ hl, sqnorm_eq_zero, not_forall, exists_prop]

theorem C.mul_comm' (a b : C) : C.mul a b = C.mul b a := by simp [C.mul]; constructor <;> ring

/-- **Any rescaling of an eigenvector is accepted** (exact test): if `M v = λ v` then `M (k v) = λ (k v)` -/
theorem eigen_rescale (m : List (List C)) (ev k : C) (v : List C) (h : mulVec m v = smul ev v) :
    mulVec m (smul k v) = smul ev (smul k v) := by
  rw [mulVec_smul, h, smul_smul_comm]

/-- the square-only test decides `|a − b| ≤ τ` for the (non-negative) norms `a, b` themselves -/
theorem magClose_iff (a b t : Rat) (ha : 0 ≤ a) (hb : 0 ≤ b) (ht : 0 ≤ t) :
    magClose (a * a) (b * b) (t * t) = true ↔ |a - b| ≤ t := by
  rw [magClose_iff_le (mul_nonneg zero_le_two (mul_nonneg ha hb)) (by ring), ← sq_le_sq_iff_abs ht]
  constructor <;> intro h <;> linarith

/-- exact span test: a nonzero vector with zero residual (= lies in the span) is accepted, one with a non-zero residual is not -/
theorem vectorSpan_exact (v : List C) (res2 : Rat) (hres : 0 ≤ res2) :
    vectorSpan v res2 (.abs 0) = .accept ↔ sqnorm v ≠ 0 ∧ res2 = 0 := by
  simp only [vectorSpan_iff, normNearlyZero, nearlyZero, le_refl, decide_true, mul_zero, Bool.true_and, decide_eq_false_iff_not,
    decide_eq_true_eq, LE.le.ge_iff_eq' (sqnorm_nonneg v), LE.le.ge_iff_eq' hres, ne_eq]

theorem vectorPhase_iff (target v : List C) (res2 : Rat) (tol : Tolerance) :
    vectorPhase target v res2 tol = true ↔ vectorSpan v res2 tol = .accept ∧ sameMagnitude (sqnorm target) (sqnorm v) tol = true := by
  simp [vectorPhase]

theorem matrixEntry_full_iff (samples : List (List C × List C)) (tol : Tolerance) (n : Nat) (pc : Partial) :
    matrixEntry samples tol n pc = .full ↔ ∀ b ∈ entrySummary samples tol n, b = true := by
  rw [matrixEntry_spec, ← good_eq_n_iff]
  by_cases h : good samples tol n = n
  · simp [h]
  · simp only [h, ↓reduceIte, iff_false]
    split <;> simp

theorem matrixEntry_zero_iff (samples : List (List C × List C)) (tol : Tolerance) (n : Nat) (pc : Partial) (hn : 0 < n) :
    matrixEntry samples tol n pc = .zero ↔ ∀ b ∈ entrySummary samples tol n, b = false := by
  rw [matrixEntry_spec, ← good_eq_zero_iff]
  by_cases h : good samples tol n = n
  · simp only [h, ↓reduceIte, reduceCtorEq, false_iff]; omega
  · by_cases h0 : good samples tol n = 0
    · simp [h0]; omega
    · simp [h, h0]

theorem linear_needs_three_samples (cfg : LinCfg) (x y : List Rat) (tol : Tolerance) (h : x.length < 3) :
    ∃ m, linearComparer cfg x y tol = .error (.config m) := by
  simp [linearComparer, h]

/-- the modes that are considered: the configured ones, without `proportional`/`linear` when comparing with zero -/
def validModes (cfg : LinCfg) (x y : List Rat) (tol : Tolerance) : List Mode :=
  if comparingZero x y tol then (allModes.filter (fun m => (cfg.credit m).isSome)).filter zeroCompatible
  else allModes.filter (fun m => (cfg.credit m).isSome)

/-- does the relation of mode `m` hold between the samples, within tolerance? -/
def holds (m : Mode) (x y : List Rat) (tol : Tolerance) : Bool :=
  nearlyZero (err2 m x y) (sumL (y.map (fun b => b * b))) tol

/-- **The awarded credit is the largest configured credit among the relations that hold** (and 0 if none holds) -/
theorem linear_best_mode {cfg : LinCfg} {x y : List Rat} {tol : Tolerance} {r : Rat × String}
    (h : linearComparer cfg x y tol = .ok r) :
    (∀ m ∈ validModes cfg x y tol, holds m x y tol = true → (cfg.credit m).getD 0 ≤ r.1) ∧
    (r = (0, "") ∨ ∃ m ∈ validModes cfg x y tol, holds m x y tol = true ∧ r = ((cfg.credit m).getD 0, cfg.msg m)) := by
  unfold linearComparer at h
  split at h
  · cases h
  · simp only at h
    split at h
    · rename_i m hm
      cases h
      obtain ⟨hmem, hall⟩ := maxRes_spec _ _ hm
      refine ⟨fun md hmd hnz => hall ((cfg.credit md).getD 0, cfg.msg md) (List.mem_map.mpr ⟨md, hmd, if_pos hnz⟩), ?_⟩
      obtain ⟨md, hmd, rfl⟩ := List.mem_map.mp hmem
      by_cases hnz : holds md x y tol = true
      · exact .inr ⟨md, hmd, hnz, if_pos hnz⟩
      · exact .inl (if_neg hnz)
    · cases h

/-- **Zero rule**: when the student's samples are all (nearly) zero or the expected ones are exactly zero, no proportional
or linear credit is awarded: only `equals` and `offset` are considered -/
theorem linear_zero_rule {cfg : LinCfg} {x y : List Rat} {tol : Tolerance} {r : Rat × String}
    (hz : comparingZero x y tol = true) (h : linearComparer cfg x y tol = .ok r) :
    r = (0, "") ∨ ∃ m, (m = .equals ∨ m = .offset) ∧ r = ((cfg.credit m).getD 0, cfg.msg m) := by
  obtain ⟨_, h2⟩ := linear_best_mode h
  simp only [validModes, hz, ↓reduceIte] at h2
  rcases h2 with h2 | ⟨m, hm, _, hr⟩
  · exact Or.inl h2
  · exact Or.inr ⟨m, (zeroCompatible_iff m).mp (List.mem_filter.mp hm).2, hr⟩

/-- the shape of the relation `expected = a·student + b` that each mode stands for -/
def ModeShape : Mode → Rat → Rat → Prop
  | .equals, a, b => a = 1 ∧ b = 0
  | .proportional, _, b => b = 0
  | .offset, a, _ => a = 1
  | .linear, _, _ => True

/-- the code's fit error of a mode is attained by a line of the mode's shape, and no line of that shape does better -/
theorem err2_is_least (m : Mode) (x y : List Rat) (h : x.length = y.length) (hn : 0 < x.length) :
    (∃ a b, ModeShape m a b ∧ err2 m x y = resid2 a b x y) ∧ ∀ a b, ModeShape m a b → err2 m x y ≤ resid2 a b x y := by
  cases m with
  | equals =>
    refine ⟨⟨1, 0, ⟨rfl, rfl⟩, equalsErr2_eq_resid2 x y⟩, ?_⟩
    rintro a b ⟨rfl, rfl⟩; exact le_of_eq (equalsErr2_eq_resid2 x y)
  | proportional =>
    obtain ⟨⟨a, ha⟩, hle⟩ := propErr2_least x y h
    exact ⟨⟨a, 0, rfl, ha⟩, fun a b hb => by cases hb; exact hle a⟩
  | offset =>
    obtain ⟨⟨b, hb⟩, hle⟩ := (linearErr2_offsetErr2_least x y h hn).2
    exact ⟨⟨1, b, rfl, hb⟩, fun a b ha => by cases ha; exact hle b⟩
  | linear =>
    obtain ⟨⟨a, b, hab⟩, hle⟩ := (linearErr2_offsetErr2_least x y h hn).1
    exact ⟨⟨a, b, trivial, hab⟩, fun a b _ => hle a b⟩

/-- **A relation counts as holding iff some line of its shape fits the samples within tolerance**: the residual
`‖a·student + b − expected‖` of some admissible `(a, b)` is within the tolerance, taken relative to the norm of the expected
samples (mirrors the code after fix F12). -/
theorem holds_iff_fit (m : Mode) (x y : List Rat) (tol : Tolerance) (h : x.length = y.length) (hn : 0 < x.length) :
    holds m x y tol = true ↔
      ∃ a b, ModeShape m a b ∧ nearlyZero (resid2 a b x y) (sumL (y.map (fun q => q * q))) tol = true := by
  obtain ⟨⟨a, b, hs, he⟩, hmin⟩ := err2_is_least m x y h hn
  unfold holds
  constructor
  · intro hh; exact ⟨a, b, hs, by rw [← he]; exact hh⟩
  · rintro ⟨a', b', hs', hh⟩; exact nearlyZero_mono (hmin a' b' hs') hh

/-- **LinearComparer, stated on the relations themselves**: the awarded credit is the largest configured credit among the
considered relations for which an admissible line fits within tolerance, and it is the credit (and message) of one of them,
or zero. -/
theorem linear_credit_spec {cfg : LinCfg} {x y : List Rat} {tol : Tolerance} {r : Rat × String}
    (hl : x.length = y.length) (h : linearComparer cfg x y tol = .ok r) :
    let fits := fun m => ∃ a b, ModeShape m a b ∧ nearlyZero (resid2 a b x y) (sumL (y.map (fun q => q * q))) tol = true
    (∀ m ∈ validModes cfg x y tol, fits m → (cfg.credit m).getD 0 ≤ r.1) ∧
    (r = (0, "") ∨ ∃ m ∈ validModes cfg x y tol, fits m ∧ r = ((cfg.credit m).getD 0, cfg.msg m)) := by
  have hn : 0 < x.length := by
    by_contra hc
    have : x.length < 3 := by omega
    simp [linearComparer, this] at h
  obtain ⟨h1, h2⟩ := linear_best_mode h
  refine ⟨fun m hm hf => h1 m hm ((holds_iff_fit m x y tol hl hn).mpr hf), ?_⟩
  rcases h2 with h2 | ⟨m, hm, hh, hr⟩
  · exact Or.inl h2
  · exact Or.inr ⟨m, hm, (holds_iff_fit m x y tol hl hn).mp hh, hr⟩

/-- the witness of F12: with expected samples 1, 2, 3 and the constant submission 100000 no proportional relation holds at
tolerance 0.01 %, although the fit error is below 0.01 % of the *student's* norm -/
example : holds .proportional [100000, 100000, 100000] [1, 2, 3] (.pct (1 / 10000)) = false ∧
    nearlyZero (err2 .proportional [100000, 100000, 100000] [1, 2, 3]) (sumL ([100000, 100000, 100000].map (fun a => a * a))) (.pct (1 / 10000)) = true := by
  decide +kernel

example : linearComparer ⟨some 1, some (1/2), none, none, "", "prop", "", ""⟩ [100000, 100000, 100000] [1, 2, 3] (.pct (1 / 10000)) = .ok (0, "") ∧
    linearComparer ⟨some 1, some (1/2), none, none, "", "prop", "", ""⟩ [3, 6, 9] [1, 2, 3] (.pct (1 / 10000)) = .ok (1/2, "prop") := by
  decide +kernel

/-- the `equals` relation at tolerance 0 is pointwise equality of the samples -/
theorem equalsErr2_zero_iff : ∀ (x y : List Rat), x.length = y.length → (equalsErr2 x y = 0 ↔ x = y) := by
  intro x
  induction x with
  | nil => intro y h; cases y <;> simp_all [equalsErr2, zipW, sumL]
  | cons a as ih =>
    intro y h
    cases y with
    | nil => cases h
    | cons b bs =>
      have h1 : 0 ≤ equalsErr2 as bs := by rw [equalsErr2_eq_resid2]; exact resid2_nonneg _ _ _ _
      have e : equalsErr2 (a :: as) (b :: bs) = (a - b) * (a - b) + equalsErr2 as bs := sumL_cons _ _
      rw [e, add_eq_zero_iff_of_nonneg (mul_self_nonneg (a - b)) h1, mul_self_eq_zero, sub_eq_zero, ih bs (Nat.succ.inj h),
        List.cons.injEq]

example : congruence 0 (2 * 3) (-1/1000) (.abs (1/100)) = true ∧ congruence 0 6 (1/1000) (.abs (1/100)) = true ∧
    congruence 0 6 (6 - 1/1000) (.abs (1/100)) = true ∧ congruence 0 6 3 (.abs (1/100)) = false := by
  decide +kernel

end C16
