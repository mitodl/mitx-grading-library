import Mitx.Model.Safety
import Mitx.Props.C01
import Mitx.Generated.Exceptions
/-! # C02 — grading failures surface only as library errors with student-safe messages

The control-flow clause is `C01.call_escape_classes` / `C01.call_error_mapping`. Here: the bracket validator, `ensure_text_inputs`,
the recasting tables, the exception class tree. -/
namespace C02
open Sf

/-- balanced bracket strings over the three pairs; every other character is transparent -/
inductive Bal : List Char → Prop
  | nil : Bal []
  | other (c : Char) (s : List Char) : opener c = false → closer c = false → Bal s → Bal (c :: s)
  | wrap (o : Char) (s t : List Char) : opener o = true → Bal s → Bal t → Bal (o :: s ++ partner o :: t)

theorem opener_facts {o : Char} (h : opener o = true) :
    closer o = false ∧ closer (partner o) = true ∧ partner (partner o) = o := by
  obtain rfl | rfl | rfl : o = '(' ∨ o = '[' ∨ o = '{' := by simpa [opener, or_assoc] using h
  all_goals decide

theorem partner_partner_of_closer {c : Char} (h : closer c = true) : partner (partner c) = c := by
  obtain rfl | rfl | rfl : c = ')' ∨ c = ']' ∨ c = '}' := by simpa [closer, or_assoc] using h
  all_goals decide

theorem scan_bal {s : List Char} (hb : Bal s) : ∀ (st : List (Nat × Char)) (i : Nat) (t : List Char),
    scan st i (s ++ t) = scan st (i + s.length) t := by
  induction hb with
  | nil => intro st i t; rfl
  | other c s ho hc _ ih =>
    intro st i t
    simp only [List.cons_append, scan, hc, ho, Bool.false_eq_true, ↓reduceIte, ih, List.length_cons, Nat.add_right_comm,
      Nat.add_assoc]
  | wrap o s t ho _ _ ihs iht =>
    -- `o` is pushed, `s` passes (`ihs`), `partner o` pops `o` again, `t` passes (`iht`)
    intro st i u
    obtain ⟨f1, f2, f3⟩ := opener_facts ho
    simp only [List.cons_append, List.append_assoc, scan, f1, ho, Bool.false_eq_true, ↓reduceIte, ihs, f2, f3, ne_eq,
      not_true_eq_false, iht, List.length_cons, List.length_append, Nat.add_assoc, Nat.add_comm 1]

/-- invariant of the scan: the pending openers (most recent first) say how the rest of the string must decompose -/
inductive Chain : List Char → List Char → Prop
  | done (s : List Char) : Bal s → Chain [] s
  | more (o : Char) (st s0 rest : List Char) : Bal s0 → Chain st rest → Chain (o :: st) (s0 ++ partner o :: rest)

theorem Chain.cons_other {st s : List Char} (c : Char) (ho : opener c = false) (hc : closer c = false) (h : Chain st s) :
    Chain st (c :: s) := by
  cases h with
  | done s hb => exact .done _ (.other c s ho hc hb)
  | more o st s0 rest hb hr =>
    have : c :: (s0 ++ partner o :: rest) = (c :: s0) ++ partner o :: rest := by simp
    rw [this]
    exact .more o st (c :: s0) rest (.other c s0 ho hc hb) hr

theorem Chain.cons_opener {st s : List Char} (o : Char) (ho : opener o = true) (h : Chain (o :: st) s) : Chain st (o :: s) := by
  cases h with
  | more _ _ s0 rest hb hr =>
    cases hr with
    | done _ hbr => exact .done _ (.wrap o s0 _ ho hb hbr)
    | more o' st' r0 rest' hbr hr' =>
      have : o :: (s0 ++ partner o :: (r0 ++ partner o' :: rest')) = (o :: s0 ++ partner o :: r0) ++ partner o' :: rest' := by simp
      rw [this]
      exact .more o' st' _ rest' (.wrap o s0 r0 ho hb hbr) hr'

theorem scan_ok_chain : ∀ (s : List Char) (st : List (Nat × Char)) (i : Nat),
    scan st i s = .ok () → Chain (st.map (·.2)) s
  | [], [], _, _ => .done _ .nil
  | [], _ :: _, _, h => by simp [scan] at h
  | c :: r, st, i, h => by
    simp only [scan] at h
    by_cases hc : closer c = true
    · rw [if_pos hc] at h
      -- a closer is accepted only as the partner of the top of the stack
      split at h
      · cases h
      · next j o st' =>
        split at h
        · cases h
        · next hp =>
          obtain rfl : partner c = o := not_not.mp hp
          have := Chain.more (partner c) _ [] r .nil (scan_ok_chain r st' (i + 1) h)
          rw [partner_partner_of_closer hc] at this
          exact this
    · rw [if_neg hc] at h
      split at h
      · next ho => exact .cons_opener c ho (scan_ok_chain r ((i, c) :: st) (i + 1) h)
      · next ho => exact .cons_other c (Bool.of_not_eq_true ho) (Bool.of_not_eq_true hc) (scan_ok_chain r st (i + 1) h)

/-- **The validator accepts exactly the balanced strings**, for every length and nesting depth -/
theorem validate_ok_iff (s : List Char) : validate s = .ok () ↔ Bal s := by
  constructor
  · intro h
    cases scan_ok_chain s [] 0 h with
    | done _ hb => exact hb
  · intro hb
    have := scan_bal hb [] 0 []
    rwa [List.append_nil] at this

/-- true of every `Except BErr Unit` value; the three `UnbalancedBrackets` diagnoses are the constructors of `BErr` -/
theorem validate_total (s : List Char) : validate s = .ok () ∨ ∃ e, validate s = .error e := by
  cases h : validate s with
  | ok u => left; rfl
  | error e => right; exact ⟨e, rfl⟩

def allStr : List PyVal → Bool
  | [] => true
  | .str _ :: r => allStr r
  | _ :: _ => false

theorem firstNonStr_eq_none_iff (l : List PyVal) (i : Nat) : firstNonStr l i = none ↔ allStr l = true := by
  induction l generalizing i with
  | nil => simp [firstNonStr, allStr]
  | cons v r ih => cases v <;> simp [firstNonStr, allStr, ih]

/-- a single-input grader (ItemGrader) accepts exactly a text string -/
theorem ensure_text_item (v : PyVal) :
    (∃ g, ensureText false true v = .ok g) ↔ ∃ s, v = .str s := by
  cases v <;> simp [ensureText]

/-- a list grader accepts exactly a list of text strings -/
theorem ensure_text_list (v : PyVal) :
    (∃ g, ensureText true false v = .ok g) ↔ ∃ l, v = .list l ∧ allStr l = true := by
  cases v with
  | str _ | other _ => simp only [ensureText, Bool.and_false, ↓reduceIte, reduceCtorEq, false_and, exists_false]
  | list l =>
    simp only [ensureText, ↓reduceIte, PyVal.list.injEq, exists_eq_left']
    cases h : firstNonStr l 0 with
    | none => simp [(firstNonStr_eq_none_iff l 0).mp h]
    | some p =>
      have : ¬ allStr l = true := fun ha => by rw [(firstNonStr_eq_none_iff l 0).mpr ha] at h; cases h
      simp [this]

theorem ensureText_valueError_iff (al as : Bool) (v : PyVal) :
    ensureText al as v = .error .valueError ↔ al = false ∧ as = false := by
  cases v with
  | str s => cases al <;> cases as <;> simp [ensureText]
  | other t => cases al <;> cases as <;> simp [ensureText]
  | list l => cases al <;> cases as <;> simp [ensureText] <;> split <;> simp

/-- everything else is refused with a configuration error (never graded, never another exception) -/
theorem ensure_text_refusal_is_config (al as : Bool) (hcfg : al = true ∨ as = true) (v : PyVal) (e : TextErr)
    (h : ensureText al as v = .error e) : e ≠ .valueError := by
  rintro rfl
  simp [(ensureText_valueError_iff al as v).mp h] at hcfg

/-- accepted input is passed on unchanged -/
theorem ensure_text_value (s : String) : ensureText false true (.str s) = .ok (.one s) := rfl

/-- whatever a function call raises, `eval_function` turns it into a library error -/
theorem evalFunction_recast_total (name : String) (x : PyExc) : ∃ c m, evalFunctionRecast name x = .mitx c m := by
  cases x <;> exact ⟨_, _, rfl⟩

/-- `MathExpression.eval` recasts overflow and zero division; library errors pass unchanged; the rest is left to `__call__` -/
theorem eval_recast_spec (x : PyExc) :
    (x = .overflow → ∃ m, evalRecast x = .mitx "CalcOverflowError" m) ∧
    (x = .zeroDiv → ∃ m, evalRecast x = .mitx "CalcZeroDivisionError" m) ∧
    (∀ c m, x = .studentFacing c m → evalRecast x = .mitx c m) := by
  refine ⟨?_, ?_, ?_⟩
  · rintro rfl; exact ⟨_, rfl⟩
  · rintro rfl; exact ⟨_, rfl⟩
  · rintro c m rfl; rfl

/-- end to end: an evaluation failure of any kind leaves `__call__` (debug off) as a library error -/
theorem eval_failure_escapes_as_library_error (cfg : Gr.CallCfg) (hd : cfg.debug = false) (att : Option Int) (log : String)
    (inp : Gr.GInput) (x : PyExc) : ∃ c m, Gr.call cfg att log inp (.error (evalRecast x)) = .error (.mitx c m) := by
  rw [C01.call_error_mapping cfg hd]
  cases x <;> exact ⟨_, _, rfl⟩

/-- with `suppress_matrix_messages` every matrix-related failure is graded incorrect without a message; otherwise a shape
error is raised iff `shape_errors`, a type mismatch iff `is_raised`, and argument-shape / other array errors always -/
theorem matrix_recast_spec (cfg : MCfg) :
    (cfg.suppress = true → ∀ e, e ≠ .unrelated → matrixRecast cfg e = .zero false) ∧
    (cfg.suppress = false → (matrixRecast cfg .shape = .reraise ↔ cfg.shapeErrors = true) ∧
      (matrixRecast cfg .inputType = .reraise ↔ cfg.isRaised = true) ∧
      matrixRecast cfg .argShape = .reraise ∧ matrixRecast cfg .mathArray = .reraise) ∧
    matrixRecast cfg .unrelated = .reraise := by
  refine ⟨?_, ?_, rfl⟩
  · intro hs e he; cases e <;> simp_all [matrixRecast]
  · intro hs
    refine ⟨?_, ?_, ?_, ?_⟩ <;> simp [matrixRecast, hs]

/- The three obligations on the class tables are evaluated in one declaration: nearly all of the kernel's work is turning the
class-name literals into byte strings, and that is redone in every declaration that compares them. `Gen.*` is regenerated from
the live source on every run (`Mitx/Generated/Exceptions.lean`). -/
theorem exception_tables :
    (∀ p ∈ classTree, descends classTree classTree.length p.1 = true) ∧
    ((∀ p ∈ Gen.classTree, p ∈ classTree) ∧ (∀ p ∈ classTree, p ∈ Gen.classTree)) ∧
    ((Gen.raiseSites.filter (fun p => !descends classTree classTree.length p.2)).length ≤ 1) ∧
    ∀ p ∈ Gen.raiseSites, descends classTree classTree.length p.2 = true ∨ p = ("AbstractGrader.ensure_text_inputs", "ValueError") := by
  decide +kernel

/-- every class of the library's exception tree descends from `MITxError` -/
theorem classTree_rooted : ∀ p ∈ classTree, descends classTree classTree.length p.1 = true := exception_tables.1

/-- the live exception classes are exactly the model's class tree -/
theorem generated_tree_matches : (∀ p ∈ Gen.classTree, p ∈ classTree) ∧ (∀ p ∈ classTree, p ∈ Gen.classTree) :=
  exception_tables.2.1

/-- every `raise` statement in the code that runs outside the guarded region of `__call__` raises a library class, except
at most one `ValueError` in `ensure_text_inputs`, which `ensure_text_refusal_is_config` shows to be unreachable from a grader
(both `allow_lists` and `allow_single` false) -/
theorem generated_raise_sites_in_family :
    ((Gen.raiseSites.filter (fun p => !descends classTree classTree.length p.2)).length ≤ 1) ∧
    ∀ p ∈ Gen.raiseSites, descends classTree classTree.length p.2 = true ∨ p = ("AbstractGrader.ensure_text_inputs", "ValueError") :=
  exception_tables.2.2

example : validate "1 + ( ( x + 1 )^2 + [T_{1}] )".toList = .ok () := by decide +kernel
example : validate "[(1, 2, 3])".toList = .error (.wrongClosing 1 9) := by decide +kernel
example : validate "1, 2, 3]".toList = .error (.closeWithoutOpen 7) := by decide +kernel
example : validate "(1 + 2) + ( 3 + (".toList = .error (.openWithoutClose [10, 16]) := by decide +kernel
example : ensureText true false (.list [.str "a", .other "<class 'int'>"]) = .error (.badItem 1 "<class 'int'>") := by rfl

end C02
