import Mitx.Model.SumG
import Mitx.Lemmas.Rename
import Mitx.Lemmas.Tol
import Mitx.Lemmas.Except
import Mathlib.Algebra.BigOperators.Group.Finset.Basic
import Mathlib.Algebra.BigOperators.Intervals
import Mathlib.Order.Interval.Finset.Basic
import Mathlib.Data.Int.Interval
/-! # C19 — SumGrader accepts exactly the sums equal in value to the author's

The summand is an arbitrary function `f : ℤ → V` into an arbitrary commutative additive monoid (numbers, complex numbers,
vectors). -/
namespace C19
open Sm

/-- the integers a parity option keeps: all (0), odd (1), even (2) -/
def parityOK (evenOdd : Nat) (n : Int) : Prop :=
  (evenOdd = 1 → n % 2 = 1) ∧ (evenOdd = 2 → n % 2 = 0)

instance (eo : Nat) (n : Int) : Decidable (parityOK eo n) := by unfold parityOK; infer_instance

theorem parityOK_zero (n : Int) : parityOK 0 n := by simp [parityOK]

/-- `⌈m / d⌉` is the number of terms of a Python range -/
theorem lt_ceilDiv {k m d : Int} (hd : 0 < d) : k < (m + d - 1) / d ↔ d * k < m := by
  rw [Int.lt_iff_add_one_le, Int.le_ediv_iff_mul_le hd, Int.add_mul, Int.one_mul, Int.mul_comm]
  omega

theorem mem_pyRange {lo hi n : Int} {d : Nat} (hd : 0 < d) :
    n ∈ pyRange lo hi d ↔ (lo ≤ n ∧ n % d = lo % d) ∧ n < hi := by
  have hd' : (0 : Int) < d := Int.natCast_pos.mpr hd
  simp only [pyRange, List.mem_map, List.mem_range, Int.lt_toNat, lt_ceilDiv hd',
    Int.emod_eq_emod_iff_emod_sub_eq_zero, ← Int.dvd_iff_emod_eq_zero]
  constructor
  · rintro ⟨k, hk, rfl⟩
    exact ⟨⟨Int.le_add_of_nonneg_right (Int.mul_nonneg hd'.le (Int.natCast_nonneg k)), k, add_sub_cancel_left _ _⟩,
      Int.add_lt_of_lt_sub_left hk⟩
  · rintro ⟨⟨h1, k, hk⟩, h2⟩
    lift k to Nat using Int.nonneg_of_mul_nonneg_right (a := (d : Int)) (by omega) hd'
    exact ⟨k, hk ▸ Int.sub_lt_sub_right h2 lo, by omega⟩

theorem pyRange_nodup (lo hi : Int) {d : Nat} (hd : 0 < d) : (pyRange lo hi d).Nodup :=
  List.nodup_range.map fun _ _ h =>
    Int.ofNat_inj.mp (Int.eq_of_mul_eq_mul_left (Int.natCast_pos.mpr hd).ne' (Int.add_left_cancel h))

theorem parityStart_one (a : Int) : parityStart a 1 = (if a % 2 ≠ 1 then a + 1 else a, 2) := by simp [parityStart]
theorem parityStart_two (a : Int) : parityStart a 2 = (if a % 2 ≠ 0 then a + 1 else a, 2) := by simp [parityStart]
theorem parityStart_other (a : Int) (eo : Nat) (h1 : eo ≠ 1) (h2 : eo ≠ 2) : parityStart a eo = (a, 1) := by
  simp [parityStart, h1, h2]

/-- `if abs(lower % 2) != r: lower += 1` picks the least integer from `lo` upwards with residue `r` -/
theorem start_residue {lo r : Int} (hr : r = 0 ∨ r = 1) (n : Int) :
    ((if lo % 2 ≠ r then lo + 1 else lo) ≤ n ∧ n % 2 = (if lo % 2 ≠ r then lo + 1 else lo) % 2) ↔ lo ≤ n ∧ n % 2 = r := by
  split_ifs with h
  · have hs : (lo + 1) % 2 = r := by omega
    rw [hs]
    exact and_congr_left fun hn => ⟨Int.le_of_lt, fun h1 => h1.lt_or_eq.resolve_right fun e => h (e ▸ hn)⟩
  · rw [not_not.mp h]

theorem parityStart_spec (lo : Int) (eo : Nat) (n : Int) :
    0 < (parityStart lo eo).2 ∧
    ((parityStart lo eo).1 ≤ n ∧ n % (parityStart lo eo).2 = (parityStart lo eo).1 % (parityStart lo eo).2 ↔
      lo ≤ n ∧ parityOK eo n) := by
  by_cases h1 : eo = 1
  · subst h1; rw [parityStart_one]; exact ⟨Nat.two_pos, (start_residue (.inr rfl) n).trans (by simp [parityOK])⟩
  by_cases h2 : eo = 2
  · subst h2; rw [parityStart_two]; exact ⟨Nat.two_pos, (start_residue (.inl rfl) n).trans (by simp [parityOK])⟩
  · rw [parityStart_other lo eo h1 h2]; simp [parityOK, h1, h2, Int.emod_one]

theorem range_sum {V : Type} [AddCommMonoid V] (f : Int → V) (lo hi : Int) (eo : Nat) :
    (pyRange (parityStart lo eo).1 (hi + 1) (parityStart lo eo).2).foldl (fun acc n => acc + f n) 0 =
      ∑ n ∈ (Finset.Icc lo hi).filter (parityOK eo), f n := by
  rw [← List.foldl_map, ← List.sum_eq_foldl, ← List.sum_toFinset f (pyRange_nodup _ _ (parityStart_spec lo eo 0).1)]
  congr 1
  ext n
  rw [List.mem_toFinset, mem_pyRange (parityStart_spec lo eo n).1, (parityStart_spec lo eo n).2, Int.lt_add_one_iff,
    Finset.mem_filter, Finset.mem_Icc, and_right_comm]

/-- `lower > upper` on limits is a strict total order: all the sorting step needs -/
theorem lim_gt_asymm {l u : Lim} (h : l.gt u = true) : u.gt l = false := by
  cases l <;> cases u <;> simp_all [Lim.gt]; omega

theorem lim_eq_of_not_gt {l u : Lim} (h1 : l.gt u = false) (h2 : u.gt l = false) : l = u := by
  cases l <;> cases u <;> simp_all [Lim.gt]; omega

/-- **The sum runs over all integers between the two limits inclusive, whatever their order** (only the odd / only the
even ones when so configured) -/
theorem sum_spec {V : Type} [AddCommMonoid V] (f : Int → V) (a b : Int) (eo : Nat) (c : Int) :
    performSummation f (.fin a) (.fin b) eo c = .ok (∑ n ∈ (Finset.Icc (min a b) (max a b)).filter (parityOK eo), f n) := by
  rcases Int.lt_or_le b a with h | h
  · simp only [performSummation, Lim.gt, decide_eq_true h, ↓reduceIte, reduceCtorEq, range_sum, min_eq_right h.le, max_eq_left h.le]
  · simp only [performSummation, Lim.gt, decide_eq_false (Int.not_lt.mpr h), ↓reduceIte, reduceCtorEq, range_sum, min_eq_left h, max_eq_right h]

/-- exchanging the limits never changes the result (value or error), infinite limits included -/
theorem sum_symm {V : Type} [Add V] [Zero V] (f : Int → V) (l u : Lim) (eo : Nat) (c : Int) :
    performSummation f l u eo c = performSummation f u l eo c := by
  unfold performSummation
  cases h1 : l.gt u
  · cases h2 : u.gt l
    · rw [lim_eq_of_not_gt h1 h2]
    · rfl
  · rw [lim_gt_asymm h1]; rfl

/-- an infinite limit is replaced by the configured cutoff; `perform_summation` (integralgrader.py) sorts the limits
before that, so a finite lower limit above the cutoff is not exchanged with it and the range is empty: the case `a > c` -/
theorem sum_infinite {V : Type} [Add V] [Zero V] (f : Int → V) (a : Int) (eo : Nat) (c : Int) :
    performSummation f (.fin a) .pinf eo c = performSummation f (.fin a) (.fin c) eo c ∨ a > c := by
  by_cases h : a > c
  · exact Or.inr h
  · left
    simp [performSummation, Lim.gt, h]

theorem sum_infinite_lower {V : Type} [Add V] [Zero V] (f : Int → V) (b : Int) (eo : Nat) (c : Int) (h : -c ≤ b) :
    performSummation f .ninf (.fin b) eo c = performSummation f (.fin (-c)) (.fin b) eo c := by
  have : ¬ (-c > b) := by omega
  simp [performSummation, Lim.gt, this]

theorem sum_both_infinite {V : Type} [Add V] [Zero V] (f : Int → V) (eo : Nat) (c : Int) :
    (∃ m, performSummation f .pinf .pinf eo c = .error (.summation m)) ∧
    (∃ m, performSummation f .ninf .ninf eo c = .error (.summation m)) :=
  ⟨⟨_, rfl⟩, ⟨_, rfl⟩⟩

theorem sum_reindex {V : Type} [AddCommMonoid V] (f : Int → V) (e : Int ≃ Int) {a b a' b' : Int} {eo eo' : Nat} {c c' : Int}
    (h : ∀ n, (min a' b' ≤ n ∧ n ≤ max a' b') ∧ parityOK eo' n ↔ (min a b ≤ e n ∧ e n ≤ max a b) ∧ parityOK eo (e n)) :
    performSummation (fun n => f (e n)) (.fin a') (.fin b') eo' c' = performSummation f (.fin a) (.fin b) eo c := by
  rw [sum_spec, sum_spec]
  refine congrArg _ (Finset.sum_equiv e (fun n => ?_) fun _ _ => rfl)
  rw [Finset.mem_filter, Finset.mem_filter, Finset.mem_Icc, Finset.mem_Icc]
  exact h n

/-- shifting the index: `Σ_{n=a+k}^{b+k} f(n−k) = Σ_{n=a}^{b} f(n)` -/
theorem sum_shift {V : Type} [AddCommMonoid V] (f : Int → V) (a b k : Int) (c : Int) :
    performSummation (fun n => f (n - k)) (.fin (a + k)) (.fin (b + k)) 0 c = performSummation f (.fin a) (.fin b) 0 c :=
  sum_reindex f (Equiv.subRight k) fun n => by
    rw [Equiv.subRight_apply, min_add_add_right, max_add_add_right, le_sub_iff_add_le, sub_le_iff_le_add]
    exact and_congr_right fun _ => iff_of_true (parityOK_zero _) (parityOK_zero _)

/-- reversing the index: `Σ_{n=a}^{b} f(n) = Σ_{n=-b}^{-a} f(-n)` -/
theorem sum_reverse {V : Type} [AddCommMonoid V] (f : Int → V) (a b : Int) (c : Int) :
    performSummation (fun n => f (-n)) (.fin (-b)) (.fin (-a)) 0 c = performSummation f (.fin a) (.fin b) 0 c :=
  sum_reindex f (Equiv.neg Int) fun n => by
    rw [Equiv.neg_apply, Int.neg_min_neg, Int.neg_max_neg, neg_le, le_neg, min_comm, max_comm, and_comm (a := -n ≤ _)]
    exact and_congr_right fun _ => iff_of_true (parityOK_zero _) (parityOK_zero _)

theorem sum_perturb {V : Type} [AddCommGroup V] (f g : Int → V) (a b m : Int) (c : Int)
    (hm : min a b ≤ m ∧ m ≤ max a b) (hfg : ∀ n, n ≠ m → g n = f n) :
    ∃ s t, performSummation f (.fin a) (.fin b) 0 c = .ok s ∧ performSummation g (.fin a) (.fin b) 0 c = .ok t ∧
      t - s = g m - f m := by
  refine ⟨_, _, sum_spec f a b 0 c, sum_spec g a b 0 c, ?_⟩
  have hmem : m ∈ (Finset.Icc (min a b) (max a b)).filter (parityOK 0) :=
    Finset.mem_filter.mpr ⟨Finset.mem_Icc.mpr hm, parityOK_zero m⟩
  rw [← Finset.add_sum_erase _ g hmem, ← Finset.add_sum_erase _ f hmem,
    Finset.sum_congr rfl fun x hx => hfg x (Finset.ne_of_mem_erase hx), add_sub_add_right_eq_sub]

section evaluateSum
variable {V : Type} [Add V] [Zero V] {scope : List String} {v : String} {lo hi : LimVal} {uf : Bool} {c1 c2 : Int} {eo : Nat}
  {f : Int → V}

/-- covers a complex limit too: `LimVal.complex.toLim = none` -/
theorem evaluateSum_error (h : v ∈ scope ∨ lo.toLim = none ∨ hi.toLim = none) :
    ∃ m, evaluateSum scope v lo hi uf c1 c2 eo f = .error (.summation m) := by
  unfold evaluateSum
  by_cases hs : scope.contains v = true
  · exact ⟨_, if_pos hs⟩
  by_cases hc : lo = .complex ∨ hi = .complex
  · exact ⟨_, (if_neg hs).trans (if_pos hc)⟩
  rw [if_neg hs, if_neg hc]
  rcases h with h | h | h
  · exact absurd (List.contains_iff_mem.mpr h) hs
  · rw [h]; exact ⟨_, rfl⟩
  · rw [h]; cases lo.toLim <;> exact ⟨_, rfl⟩

theorem evaluateSum_eq {l u : Lim} (h : v ∉ scope) (hl : lo.toLim = some l) (hu : hi.toLim = some u) :
    evaluateSum scope v lo hi uf c1 c2 eo f = performSummation f l u eo (if uf then c2 else c1) := by
  have hc : ¬ (lo = .complex ∨ hi = .complex) := by rintro (rfl | rfl) <;> contradiction
  unfold evaluateSum
  rw [if_neg (mt List.contains_iff_mem.mp h), if_neg hc, hl, hu]

end evaluateSum

theorem dummy_clash_error {V : Type} [Add V] [Zero V] (scope : List String) (v : String) (lo hi : LimVal) (uf : Bool)
    (c1 c2 : Int) (eo : Nat) (f : Int → V) (h : v ∈ scope) :
    ∃ m, evaluateSum scope v lo hi uf c1 c2 eo f = .error (.summation m) :=
  evaluateSum_error (.inl h)

theorem complex_limit_error {V : Type} [Add V] [Zero V] (scope : List String) (v : String) (lo hi : LimVal) (uf : Bool)
    (c1 c2 : Int) (eo : Nat) (f : Int → V) (h : lo = .complex ∨ hi = .complex) :
    ∃ m, evaluateSum scope v lo hi uf c1 c2 eo f = .error (.summation m) :=
  evaluateSum_error (.inr (h.imp (congrArg LimVal.toLim) (congrArg LimVal.toLim)))

theorem noninteger_limit_error {V : Type} [Add V] [Zero V] (scope : List String) (v : String) (q : Rat) (other : LimVal) (uf : Bool)
    (c1 c2 : Int) (eo : Nat) (f : Int → V) (hq : q.den ≠ 1) :
    (∃ m, evaluateSum scope v (.real q) other uf c1 c2 eo f = .error (.summation m)) ∧
    (∃ m, evaluateSum scope v other (.real q) uf c1 c2 eo f = .error (.summation m)) :=
  ⟨evaluateSum_error (.inr (.inl (if_neg hq))),
   evaluateSum_error (.inr (.inr (if_neg hq)))⟩

/-- when nothing is wrong with the limits, `evaluate_sum` is `perform_summation` with the cutoff chosen by the factorial rule -/
theorem evaluateSum_ok {V : Type} [Add V] [Zero V] (scope : List String) (v : String) (a b : Int) (uf : Bool)
    (c1 c2 : Int) (eo : Nat) (f : Int → V) (h : v ∉ scope) :
    evaluateSum scope v (.real a) (.real b) uf c1 c2 eo f =
      performSummation f (.fin a) (.fin b) eo (if uf then c2 else c1) :=
  evaluateSum_eq h (by simp [LimVal.toLim]) (by simp [LimVal.toLim])

/-- a blank field is refused before anything is evaluated -/
theorem blank_field_error (pos : Fields (Option Nat)) (ans : Fields String) (student : List String)
    (hm vn : String → Bool) (s : Fields String) (k : String)
    (hs : structureInput pos ans student = .ok s) (hb : firstBlank s = some k) :
    ∃ m, precheck pos ans student hm vn = .error (.missing m) := by
  rw [precheck, hs, Except.ok_bind, hb]
  exact ⟨_, rfl⟩

/-- a summation variable that already has a meaning, or is no valid name, is refused -/
theorem dummy_variable_error (pos : Fields (Option Nat)) (ans : Fields String) (student : List String)
    (hm vn : String → Bool) (s : Fields String)
    (hs : structureInput pos ans student = .ok s) (hb : firstBlank s = none) (hbad : hm s.var = true ∨ vn s.var = false) :
    ∃ m, precheck pos ans student hm vn = .error (.invalid m) := by
  rw [precheck, hs, Except.ok_bind, hb]
  by_cases h1 : hm s.var = true
  · exact ⟨_, if_pos h1⟩
  · exact ⟨_, (if_neg h1).trans (if_pos (by rw [hbad.resolve_left h1]; rfl))⟩

/-- failures of the author's own sum are configuration errors; the student's own failures keep their class -/
theorem author_failure_is_config_error {V : Type} (e : Err) (student : Except Err V) :
    ∃ m, sampleEvals (.error e) student = .error (.config m) := ⟨_, rfl⟩

theorem student_failure_kept {V : Type} (a : V) (e : Err) : sampleEvals (.ok a) (.error e) = .error e := rfl

/-- **Verdict**: correct exactly when the two sums agree within tolerance at every sample (for the default
`failable_evals = 0`), by the C04 rule -/
theorem sum_grade_iff {samples : List (Tl.Val × Tl.Val)} {tol : Tl.Tolerance} {fe : Nat} {r : At.Res}
    (h : sumVerdict samples tol fe = some r) :
    ∃ vs, samples.mapM (fun p => Tl.withinTol p.1 p.2 tol) = some vs ∧
      r = if C04.passes vs fe then { ok := .yes, grade := 1, msg := "" } else { ok := .no, grade := 0, msg := "" } := by
  obtain ⟨vs, h1, _, h3⟩ := C04.formulaGrade_iff h
  exact ⟨vs, h1, h3⟩

example : performSummation (fun n => n * n) (.fin 3) (.fin (-2)) 0 1000 = .ok (4 + 1 + 0 + 1 + 4 + 9 : Int) := by decide
example : performSummation (fun n => n) (.fin (-3)) (.fin 6) 1 1000 = .ok (-3 + -1 + 1 + 3 + 5 : Int) := by decide
example : performSummation (fun n => n) (.fin (-3)) (.fin 6) 2 1000 = .ok (-2 + 0 + 2 + 4 + 6 : Int) := by decide
example : performSummation (fun n => n) (.fin 1) .pinf 0 4 = .ok (1 + 2 + 3 + 4 : Int) := by decide

/-- **The summation variable may be renamed freely**, in the summand (a parse tree evaluated with the variable bound to
the index, in any operator algebra) and in the variable field alike: the same sum or the same error, provided the new
name does not occur in the summand and neither name already has a meaning -/
theorem sum_rename {V : Type} [Add V] [Zero V] (A : C03.Alg V) (ofInt : Int → V) (scope : List String) (v v' : String) (t : C03.T)
    (hfresh : (C03.Kind.var, v') ∉ C03.names t) (hv : scope.contains v = false) (hv' : scope.contains v' = false)
    (lo hi : LimVal) (uf : Bool) (iv ifa : Int) (eo : Nat) :
    evaluateSum scope v' lo hi uf iv ifa eo (fun n => C03.evalT (A.bind v' (ofInt n)) (C03.mapVars (C03.rename1 v v') t))
      = evaluateSum scope v lo hi uf iv ifa eo (fun n => C03.evalT (A.bind v (ofInt n)) t) := by
  -- the clash message quotes the variable, so both names have to be out of scope
  rw [funext fun n => C03.evalT_rename_bound A v v' (ofInt n) t hfresh, evaluateSum, evaluateSum,
    if_neg (ne_true_of_eq_false hv), if_neg (ne_true_of_eq_false hv')]

end C19
