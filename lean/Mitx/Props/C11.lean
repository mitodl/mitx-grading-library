import Mitx.Lemmas.CallState
import Mitx.Lemmas.Globals
/-! # C11 — a grader's verdict depends only on its configuration and the current call

The call-state machine (`CS`), the negative-power switch and the constructor's deep copy (`Gl`); registered defaults are in
C11Defaults. Scopes and the other process-wide settings are snapshot-checked on the real objects by the correspondence run. -/
namespace C11
open CS

variable (p : P)

/-- reachable states of a grader constructed WITHOUT answers, related to the last good expect value -/
def Rel (s : St p) (last : Option String) : Prop :=
  match last with
  | none => s.answers = none ∧ s.inferring = false
  | some e => s.inferring = true ∧ ∃ a, p.validate e = some a ∧ s.answers = some a

theorem call_step (s : St p) (last : Option String) (h : Rel p s last) (e : Option String) (i : String) :
    Rel p (call p s e i).1 (lastGood p last [(e, i)]) ∧
    (call p s e i).2.1 = (call p (fresh p none) (e.orElse (fun _ => last)) i).2.1 := by
  cases e with
  | none =>
    cases last with
    | none =>
      obtain ⟨ha, hi⟩ := h
      simp [call, lastGood, Rel, baseCall_state, baseCall_out, ha, hi, fresh]
    | some l =>
      obtain ⟨hi, a, hv, ha⟩ := h
      simp [call, lastGood, Rel, baseCall_state, baseCall_out, ha, hi, fresh, hv]
  | some e =>
    have hcond : (s.inferring || s.answers.isNone) = true := by
      cases last with
      | none => simp [h.1]
      | some l => simp [h.1]
    cases hv : p.validate e with
    | none => simpa [call, hcond, hv, lastGood, fresh] using h
    | some a => simp [call, hcond, hv, lastGood, fresh, Rel, baseCall_state, baseCall_out]

theorem rel_run (hist : List (Option String × String)) : ∀ (s : St p) (last : Option String), Rel p s last →
    Rel p (run p s hist) (lastGood p last hist) := by
  induction hist with
  | nil => exact fun _ _ h => h
  | cons c rest ih =>
    intro s last h
    obtain ⟨e, i⟩ := c
    have := ih _ _ (call_step p s last h e i).1
    cases e <;> exact this

/-- **History independence (no configured answers).** After any history of calls, failing ones included, the next call returns
    what a fresh grader returns for the expect value of the current call, or for the last successfully supplied one if none is given. -/
theorem history_fresh (hist : List (Option String × String)) (e : Option String) (i : String) :
    (call p (run p (fresh p none) hist) e i).2.1 =
      (call p (fresh p none) (e.orElse (fun _ => lastGood p none hist)) i).2.1 :=
  (call_step p _ _ (rel_run p hist _ none ⟨rfl, rfl⟩) e i).2

/-- **Configured answers**: expect is ignored and nothing a call does changes a later verdict. -/
theorem configured_ignores_expect (a : p.Ans) (hist : List (Option String × String)) (e : Option String) (i : String) :
    (call p (run p (fresh p (some a)) hist) e i).2.1 = (call p (fresh p (some a)) none i).2.1 := by
  have inv : ∀ (hist : List (Option String × String)) (s : St p), s.answers = some a → s.inferring = false →
      (run p s hist).answers = some a ∧ (run p s hist).inferring = false := by
    intro hist
    induction hist with
    | nil => exact fun s h1 h2 => ⟨h1, h2⟩
    | cons c rest ih =>
      intro s h1 h2
      obtain ⟨h3, h4, _⟩ := baseCall_state p s c.2
      exact ih _ (by rw [call_not_inferring p s a h1 h2, h3, h1]) (by rw [call_not_inferring p s a h1 h2, h4, h2])
  obtain ⟨h1, h2⟩ := inv hist (fresh p (some a)) rfl rfl
  rw [call_not_inferring p _ a h1 h2, call_not_inferring p _ a rfl rfl, baseCall_out, baseCall_out, h1]
  rfl

/-- **The debug log is fresh on every call**: what call k shows mentions only call k's own input (and the expect value
    inferred in that very call), whatever happened before — provided the state is a reachable one (`logCreated = false`). -/
theorem debuglog_fresh_each_call (s : St p) (hlc : s.logCreated = false) (e : Option String) (i : String) :
    ∀ x ∈ (call p s e i).2.2, x = "input:" ++ i ∨ ∃ e', e = some e' ∧ x = "inferred:" ++ e' :=
  (call_log p s hlc e i).2

/-- every call leaves the log flag cleared (mirrors the code after fix F2) -/
theorem log_flag_cleared (s : St p) (hlc : s.logCreated = false) (e : Option String) (i : String) :
    (call p s e i).1.logCreated = false :=
  (call_log p s hlc e i).1

/-- **The negative-power switch is always restored**: whatever the checking code does — return, raise, even change the
    switch itself — after `with MathArray.enable_negative_powers(v)` the switch holds its default again. Holds by construction
    of the model: `withNP` ignores the flag the body leaves, as the `finally` clause does. -/
theorem negative_powers_restored {α : Type} (v : Bool) (body : Bool → Bool × Gl.Beh α) (flag : Bool) :
    (Gl.withNP v body flag).1 = Gl.defaultNP ∧ (Gl.withNP v body flag).2 = (body v).2 := ⟨rfl, rfl⟩

/-- after any history of MatrixGrader calls (any `negative_powers` settings, returning or raising) the switch is at its
    default: the next call of any grader starts from the process-wide state of a fresh process -/
theorem negative_powers_history {α : Type} (calls : List (Gl.MCall α)) : Gl.runCalls Gl.defaultNP calls = Gl.defaultNP := by
  induction calls with
  | nil => rfl
  | cons c cs ih => exact ih

/-- without `try/finally` a raising check leaks the grader's setting into the rest of the process -/
example : (Gl.withNP_noFinally (α := Unit) false (fun b => (b, .raise "boom")) true).1 = false := rfl

/-- **Construction never aliases the author's objects.** `coerce2unicode` returns a value equal to the author's (`shape`:
    identities erased) in which every list and dictionary, also inside tuples, is a fresh object; so nothing the validators
    later write in place into the copy reaches the author's objects. -/
theorem constructor_no_alias (n : Nat) (v : Gl.PV) (hold : ∀ i ∈ Gl.mutIds v, i < n) :
    Gl.shape (Gl.coerce n v).2 = Gl.shape v ∧ ∀ i ∈ Gl.mutIds (Gl.coerce n v).2, i ∉ Gl.mutIds v := by
  refine ⟨Gl.coerce_shape n v, ?_⟩
  intro i hi hmem
  have := (Gl.coerce_bounds n v).2 i hi
  have := hold i hmem
  omega

/-- the rewrite that returns tuples unchanged is refuted: a list inside a tuple stays the author's own object -/
example : Gl.mutIds (Gl.coerceKeepTuples 10 (.tuple [.list 3 [.atom "a"], .list 4 [.atom "b"]])).2 = [3, 4] := by decide
example : Gl.mutIds (Gl.coerce 10 (.tuple [.list 3 [.atom "a"], .list 4 [.atom "b"]])).2 = [10, 11] := by decide

end C11
