import Mitx.Props.C04
import Mitx.Model.FormulaPipe
import Mitx.Lemmas.MapM
/-! # C04 — the whole pipeline: both formulas on every sample, on the same sample

`FP.pipeline` composes the parser model, the rational evaluator and the tolerance / failure-count model into what a
`FormulaGrader` call with the default comparer does for scalar formulas. -/
namespace C04
open Tl

/-- **Same-sample pairing.** `gen_evaluations` returns one pair per sample, in sample order, and the i-th pair is the author's
    formula evaluated on sample i together with the student's formula evaluated on the *same* sample i (minus the
    instructor-only variables). -/
theorem pipeline_same_sample {answer student : String} {hidden : List String} {samples : List EvQ.Env} {pairs : List (Val × Val)}
    (h : FP.genEvaluations answer student hidden samples = .ok pairs) :
    pairs.length = samples.length ∧
    ∀ i (h1 : i < samples.length) (h2 : i < pairs.length), FP.samplePair answer student hidden samples[i] = .ok pairs[i] := by
  obtain ⟨hl, hg⟩ := List.forall₂_iff_get.mp (List.mapM_eq_ok_iff.mp h)
  exact ⟨hl.symm, fun i h1 h2 => hg i h1 h2⟩

/-- **Algebraically identical rewritings earn the answer's full credit.** If on every sample the student's formula has the
    value of the author's (both evaluate), the verdict is the answer's own result, whatever the number of samples and
    `failable_evals`, for every non-negative tolerance. -/
theorem pipeline_equal_values_full_credit {answer student : String} {hidden : List String} {samples : List EvQ.Env}
    (tol : Tolerance) (ht : tol.nonneg) (ans : At.Res) (fe : Nat)
    (heq : ∀ env ∈ samples, ∃ q, FP.evalOn answer env = .val q ∧ FP.evalOn student (FP.studentEnv hidden env) = .val q) :
    FP.pipeline answer student hidden samples tol ans fe = .ok (some ans) := by
  have hpairs : ∃ pairs, FP.genEvaluations answer student hidden samples = .ok pairs ∧ ∀ p ∈ pairs, p.2 = p.1 := by
    unfold FP.genEvaluations
    induction samples with
    | nil => exact ⟨[], rfl, by simp⟩
    | cons env rest ih =>
      obtain ⟨q, ha, hs⟩ := heq env (by simp)
      obtain ⟨ps, hps, hid⟩ := ih (fun e he => heq e (by simp [he]))
      refine ⟨(.num ⟨q, 0⟩, .num ⟨q, 0⟩) :: ps, ?_, ?_⟩
      · rw [List.mapM_cons, FP.samplePair, ha, hs, hps]; rfl
      · intro p hp
        rcases List.mem_cons.mp hp with rfl | h'
        · rfl
        · exact hid p h'
  obtain ⟨pairs, hp, hid⟩ := hpairs
  rw [FP.pipeline, hp, Except.map, identical_full_credit pairs tol ans fe ht hid]

/-- a formula that mentions an instructor-only variable cannot be evaluated in the student's scope: the pipeline reports the
    student-side failure whatever the values (C09's hidden-name clause, seen from the pipeline) -/
theorem pipeline_student_error {answer student : String} {hidden : List String} {env : EvQ.Env} {rest : List EvQ.Env} {q : Rat} {k : String}
    (tol : Tolerance) (ans : At.Res) (fe : Nat)
    (ha : FP.evalOn answer env = .val q) (hs : FP.evalOn student (FP.studentEnv hidden env) = .err k) :
    FP.pipeline answer student hidden (env :: rest) tol ans fe = .error ("student:" ++ k) := by
  rw [FP.pipeline, FP.genEvaluations, List.mapM_cons, FP.samplePair, ha, hs]; rfl

end C04
