import Mitx.Lemmas.Attempt
import Mathlib.Algebra.Order.Field.Basic
/-! # C17 — attempt-based credit scales grades by a bounded, non-increasing schedule

Model: `Mitx/Model/Attempt.lean`. Attempt numbers are arbitrary integers, schedule parameters arbitrary within the domain the
configuration schema admits. -/
namespace C17
open At

theorem linear_first (after steps : ℕ) (minc : ℚ) : linearCredit after steps minc 1 = 1 := by
  simp [linearCredit]

theorem linear_range {after steps : ℕ} {minc : ℚ} (ha : 1 ≤ after) (hs : 1 ≤ steps) (h0 : 0 ≤ minc) (h1 : minc ≤ 1)
    (a : ℤ) : 0 ≤ linearCredit after steps minc a ∧ linearCredit after steps minc a ≤ 1 := by
  have hhi := lerp_anti h1 (progress_nonneg after steps a)
  rw [mul_zero, add_zero] at hhi
  rw [linearCredit_eq ha hs h1]
  exact ⟨h0.trans (le_max_right _ _), max_le ((round4_mono hhi).trans_eq round4_one) h1⟩

theorem linear_antitone {after steps : ℕ} {minc : ℚ} (ha : 1 ≤ after) (hs : 1 ≤ steps) (h0 : 0 ≤ minc) (h1 : minc ≤ 1)
    {a b : ℤ} (h : a ≤ b) : linearCredit after steps minc b ≤ linearCredit after steps minc a := by
  rw [linearCredit_eq ha hs h1, linearCredit_eq ha hs h1]
  exact max_le_max_right _ (round4_mono (lerp_anti h1 (progress_mono h)))

/-- **"never below the configured minimum"**, for every minimum up to 1 (mirrors the code after fix F14) -/
theorem linear_ge_min {after steps : ℕ} {minc : ℚ} (ha : 1 ≤ after) (h1 : minc ≤ 1) (a : ℤ) :
    minc ≤ linearCredit after steps minc a := by
  unfold linearCredit
  split_ifs
  exacts [h1, h1, le_rmax_right _ _, le_rmax_right _ _]

/-- the input of the former finding K2 (fix F14), checked by evaluation -/
theorem linear_k2_witness : (33333 : ℚ) / 100000 ≤ linearCredit 1 4 (33333 / 100000) 10 := by
  decide +kernel

theorem geometric_first (f : ℚ) : geometricCredit f 1 = 1 := by simp [geometricCredit]

theorem geometric_range {f : ℚ} (h0 : 0 ≤ f) (h1 : f ≤ 1) (a : ℤ) :
    0 ≤ geometricCredit f a ∧ geometricCredit f a ≤ 1 :=
  geometricCredit_eq f a ▸ round4_unit (pow_nonneg h0 _) (pow_le_one₀ h0 h1)

theorem geometric_antitone {f : ℚ} (h0 : 0 ≤ f) (h1 : f ≤ 1) {a b : ℤ} (ha : 1 ≤ a) (h : a ≤ b) :
    geometricCredit f b ≤ geometricCredit f a := by
  rw [geometricCredit_eq, geometricCredit_eq]
  exact round4_mono (pow_le_pow_of_le_one h0 h1 (by omega))

theorem reciprocal_first : reciprocalCredit 1 = 1 := by simp [reciprocalCredit]

theorem reciprocal_range {a : ℤ} (ha : 1 ≤ a) : 0 ≤ reciprocalCredit a ∧ reciprocalCredit a ≤ 1 := by
  have hq : (1 : ℚ) ≤ a := Int.cast_one_le_of_pos ha
  rw [reciprocalCredit_eq]
  exact round4_unit (one_div_nonneg.mpr (zero_le_one.trans hq)) ((div_le_one (zero_lt_one.trans_le hq)).mpr hq)

theorem reciprocal_antitone {a b : ℤ} (ha : 1 ≤ a) (h : a ≤ b) : reciprocalCredit b ≤ reciprocalCredit a := by
  have hq : (0 : ℚ) < a := Int.cast_pos.mpr ha
  rw [reciprocalCredit_eq, reciprocalCredit_eq]
  exact round4_mono (one_div_le_one_div_of_le hq (Int.cast_le.mpr h))

/-- Omitting the attempt number while the feature is on is a configuration error. -/
theorem apply_missing_attempt_error (sched : ℤ → ℚ) (flag : Bool) (out : Out) :
    applyAttempt sched flag none out = .error .configMissingAttempt := rfl

/-- the attempt number the schedule is called with, and that appears in the note -/
def clamp (n : ℤ) : ℤ := if n < 1 then 1 else n
theorem schedule_arg_ge_one (n : ℤ) : 1 ≤ clamp n := by unfold clamp; split_ifs <;> omega

/-- the credit actually applied -/
def creditOf (sched : ℤ → ℚ) (n : ℤ) : ℚ := round4 (sched (clamp n))

theorem apply_identity_when_credit_one (sched : ℤ → ℚ) (flag : Bool) (n : ℤ) (out : Out)
    (h : creditOf sched n = 1) : applyAttempt sched flag (some n) out = .ok out := by
  unfold creditOf clamp at h
  simp only [applyAttempt]
  rw [if_pos h]

/-- `f` is `scaleRes` up to the message of a single result -/
theorem apply_entries_map (sched : ℤ → ℚ) (flag : Bool) (n : ℤ) (out out' : Out)
    (hc : creditOf sched n ≠ 1) (h : applyAttempt sched flag (some n) out = .ok out') :
    ∃ f : Res → Res, (∀ r, (f r).grade = (scaleRes (creditOf sched n) r).grade ∧ (f r).ok = (scaleRes (creditOf sched n) r).ok) ∧
      out'.entries = out.entries.map f := by
  unfold creditOf clamp at hc ⊢
  simp only [applyAttempt] at h
  rw [if_neg hc] at h
  generalize round4 (sched (if n < 1 then 1 else n)) = c at *
  cases out with
  | single r =>
    cases h
    exact ⟨fun r' => if flag && (Out.single r).entries.any (fun r => decide (r.grade > 0)) then
        { scaleRes c r' with msg := addNote (scaleRes c r').msg (note (if n < 1 then 1 else n) c) } else scaleRes c r',
      fun r' => by dsimp only; split_ifs <;> exact ⟨rfl, rfl⟩, rfl⟩
  | list ov rs => cases h; exact ⟨scaleRes c, fun _ => ⟨rfl, rfl⟩, rfl⟩

/-- Shape and order are preserved; every positive grade is multiplied by the credit with `ok` recomputed,
    zero (non-positive) grades are untouched. -/
theorem apply_entries (sched : ℤ → ℚ) (flag : Bool) (n : ℤ) (out out' : Out)
    (hc : creditOf sched n ≠ 1) (h : applyAttempt sched flag (some n) out = .ok out') :
    out'.entries.length = out.entries.length ∧
    ∀ i (hi : i < out.entries.length) (hi' : i < out'.entries.length),
      (out.entries[i].grade > 0 → out'.entries[i].grade = out.entries[i].grade * creditOf sched n ∧
          out'.entries[i].ok = gradeToOk (out.entries[i].grade * creditOf sched n)) ∧
      (¬ out.entries[i].grade > 0 → out'.entries[i].grade = out.entries[i].grade ∧ out'.entries[i].ok = out.entries[i].ok) := by
  obtain ⟨f, hf, he⟩ := apply_entries_map sched flag n out out' hc h
  refine ⟨by rw [he, List.length_map], ?_⟩
  intro i hi hi'
  have hget : out'.entries[i] = f (out.entries[i]) := by
    simp only [he, List.getElem_map]
  rw [hget, (hf _).1, (hf _).2]
  exact scaleRes_spec _ _

/-- the message that carries the note -/
def noteField : Out → String
  | .single r => r.msg
  | .list ov _ => ov

/-- The note is added exactly when the flag is on, the credit is not 1 and some grade is positive; otherwise
    the message is unchanged. (Entry messages of list results are never touched.) -/
theorem apply_note_iff (sched : ℤ → ℚ) (flag : Bool) (n : ℤ) (out out' : Out)
    (h : applyAttempt sched flag (some n) out = .ok out') :
    noteField out' =
      if flag = true ∧ creditOf sched n ≠ 1 ∧ (∃ r ∈ out.entries, r.grade > 0)
      then addNote (noteField out) (note (clamp n) (creditOf sched n))
      else noteField out := by
  unfold creditOf clamp
  simp only [applyAttempt] at h
  generalize (if n < 1 then 1 else n) = m at h ⊢
  generalize round4 (sched m) = c at h ⊢
  by_cases hc : c = 1
  · rw [if_pos hc] at h; cases h
    exact (if_neg fun hf => hf.2.1 hc).symm
  · have hw : (flag = true ∧ c ≠ 1 ∧ ∃ r ∈ out.entries, r.grade > 0) ↔
        (flag && out.entries.any fun r => decide (r.grade > 0)) = true := by
      simp only [hc, ne_eq, not_false_eq_true, true_and, Bool.and_eq_true, List.any_eq_true, decide_eq_true_eq]
    rw [if_neg hc] at h
    rw [if_congr hw rfl rfl]
    cases out with
    | single r => cases h; simp only [noteField]; split_ifs <;> simp only [scaleRes_msg]
    | list ov rs => cases h; rfl

/-- scaled grades stay in `[0, 1]` when the credit is in `[0,1]` (which the three schedules guarantee) -/
theorem scale_range {c g : ℚ} (hc0 : 0 ≤ c) (hc1 : c ≤ 1) (hg0 : 0 ≤ g) (hg1 : g ≤ 1) :
    0 ≤ (scaleRes c ⟨.yes, g, ""⟩).grade ∧ (scaleRes c ⟨.yes, g, ""⟩).grade ≤ 1 :=
  scaleRes_range hc0 hc1 hg0 hg1

/-- non-vacuity: a list result with grades 0, 1/2, 1 at attempt 3 under the default linear schedule (credit 0.6) -/
example : applyAttempt (linearCredit 1 4 (1/5)) true (some 3)
      (.list "" [⟨.no, 0, ""⟩, ⟨.part, 1/2, "m"⟩, ⟨.yes, 1, ""⟩])
    = .ok (.list "Maximum credit for attempt #3 is 60%."
        [⟨.no, 0, ""⟩, ⟨.part, 3/10, "m"⟩, ⟨.part, 3/5, ""⟩]) := by decide +kernel

end C17
