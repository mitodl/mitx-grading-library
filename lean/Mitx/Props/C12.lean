import Mitx.Model.Sampling
import Mitx.Lemmas.SamplingList
import Mathlib.LinearAlgebra.Matrix.Trace
import Mathlib.LinearAlgebra.Matrix.Determinant.Basic
import Mathlib.LinearAlgebra.Matrix.Symmetric
import Mathlib.LinearAlgebra.Matrix.Hermitian
import Mathlib.Algebra.Order.Ring.Abs
/-! # C12 — every random draw satisfies the constraints its sampling set declares

Samplers are deterministic functions of the random draws; the theorems hold for every draw in the RNG's documented range
(`0 ≤ u < 1`, `low ≤ k < high`).
The matrix part is the algebra `apply_symmetry`, `make_det_one` and `make_det_zero` rely on, over Mathlib's `Matrix` for any
field / star ring; the entry-list theorems at the end prove the same facts again for the executable model (nothing links the
two). -/
namespace C12
open Sp hiding trace  -- `trace` below is `Matrix.trace`; the list model's is written `Sp.trace`

theorem ordered_eq (a b : Rat) : ordered a b = (min a b, max a b) := by
  unfold ordered
  split_ifs with h
  · rw [min_eq_right h.le, max_eq_left h.le]
  · rw [min_eq_left (not_lt.mp h), max_eq_right (not_lt.mp h)]

theorem orderedI_eq (a b : Int) : orderedI a b = (min a b, max a b) := by
  unfold orderedI
  split_ifs with h
  · rw [min_eq_right h.le, max_eq_left h.le]
  · rw [min_eq_left (not_lt.mp h), max_eq_right (not_lt.mp h)]

theorem realInterval_eq (a b u : Rat) : realInterval a b u = min a b + (max a b - min a b) * u := by
  unfold realInterval
  rw [ordered_eq]

theorem realInterval_mem (a b u : Rat) (h0 : 0 ≤ u) (h1 : u < 1) :
    min a b ≤ realInterval a b u ∧ realInterval a b u ≤ max a b := by
  rw [realInterval_eq]
  have hd : 0 ≤ max a b - min a b := sub_nonneg.mpr min_le_max
  exact ⟨le_add_of_nonneg_right (mul_nonneg hd h0), add_le_of_le_sub_left (mul_le_of_le_one_right hd h1.le)⟩

theorem realInterval_symm (a b u : Rat) : realInterval a b u = realInterval b a u := by
  rw [realInterval_eq, realInterval_eq, min_comm, max_comm]

theorem integerRange_mem (a b k : Int) : integerRangeValid a b k = true ↔ min a b ≤ k ∧ k ≤ max a b := by
  unfold integerRangeValid
  rw [orderedI_eq, decide_eq_true_iff, Int.lt_add_one_iff]

/-- both endpoints are attainable (the request to the RNG is `[start, stop + 1)`) -/
theorem integerRange_endpoints_attainable (a b : Int) :
    integerRangeValid a b (min a b) = true ∧ integerRangeValid a b (max a b) = true :=
  ⟨(integerRange_mem a b _).mpr ⟨le_rfl, min_le_max⟩, (integerRange_mem a b _).mpr ⟨min_le_max, le_rfl⟩⟩

theorem rectangle_mem (re im : Rat × Rat) (u v : Rat) (hu : 0 ≤ u ∧ u < 1) (hv : 0 ≤ v ∧ v < 1) :
    min re.1 re.2 ≤ (rectangle re im u v).re ∧ (rectangle re im u v).re ≤ max re.1 re.2 ∧
    min im.1 im.2 ≤ (rectangle re im u v).im ∧ (rectangle re im u v).im ≤ max im.1 im.2 := by
  obtain ⟨a, b⟩ := realInterval_mem re.1 re.2 u hu.1 hu.2
  obtain ⟨c, d⟩ := realInterval_mem im.1 im.2 v hv.1 hv.2
  exact ⟨a, b, c, d⟩

theorem sector_polar_mem (m ar : Rat × Rat) (u v : Rat) (hu : 0 ≤ u ∧ u < 1) (hv : 0 ≤ v ∧ v < 1) :
    min m.1 m.2 ≤ (sectorPolar m ar u v).1 ∧ (sectorPolar m ar u v).1 ≤ max m.1 m.2 ∧
    min ar.1 ar.2 ≤ (sectorPolar m ar u v).2 ∧ (sectorPolar m ar u v).2 ≤ max ar.1 ar.2 := by
  obtain ⟨a, b⟩ := realInterval_mem m.1 m.2 u hu.1 hu.2
  obtain ⟨c, d⟩ := realInterval_mem ar.1 ar.2 v hv.1 hv.2
  exact ⟨a, b, c, d⟩

theorem discrete_mem {α : Type} (seq : List α) (idx : Nat) (x : α) (h : choice seq idx = some x) : x ∈ seq := by
  unfold choice at h
  exact List.mem_of_getElem? h

theorem discrete_total {α : Type} (seq : List α) (idx : Nat) (h : idx < seq.length) : ∃ x, choice seq idx = some x := by
  exact ⟨seq[idx], by simp [choice, h]⟩

theorem sum_abs_le (l : List (Rat × Rat)) (h : ∀ p ∈ l, |p.1| ≤ 1 ∧ |p.2| ≤ 1) :
    |(l.map (fun p => p.1 * p.2)).foldl (· + ·) 0| ≤ (l.length : Rat) := by
  have hp : ∀ x ∈ l.map (fun p => p.1 * p.2), |x| ≤ 1 := by
    simp only [List.mem_map, forall_exists_index, and_imp, forall_apply_eq_imp_iff₂]
    intro p hp
    rw [abs_mul]
    exact mul_le_one₀ (h p hp).1 (abs_nonneg _) (h p hp).2
  rw [← List.sum_eq_foldl, abs_le]
  have h1 := List.sum_le_card_nsmul _ (1 : Rat) fun x hx => (abs_le.mp (hp x hx)).2
  have h2 := List.card_nsmul_le_sum _ (-1 : Rat) fun x hx => (abs_le.mp (hp x hx)).1
  simp only [List.length_map, nsmul_eq_mul, mul_one, mul_neg] at h1 h2
  exact ⟨h2, h1⟩

/-- **Values of a drawn random function stay within `center ± amplitude`**: each of the `num_terms · input_dim` sinusoids
has modulus ≤ 1 and the sum is divided by exactly that number -/
theorem randomFunction_bound (center amp : Rat) (T D : Nat) (terms : List (Rat × Rat))
    (hlen : terms.length = T * D) (hpos : 0 < T * D) (hamp : 0 ≤ amp)
    (h : ∀ p ∈ terms, |p.1| ≤ 1 ∧ |p.2| ≤ 1) :
    |randomFunctionValue center amp T D terms - center| ≤ amp := by
  have hs := sum_abs_le terms h
  rw [hlen] at hs
  obtain ⟨h1, h2⟩ := abs_le.mp hs
  have hN : (0 : Rat) < ((T * D : Nat) : Rat) := Nat.cast_pos.mpr hpos
  unfold randomFunctionValue
  rw [add_sub_cancel_left, abs_le, le_div_iff₀ hN, div_le_iff₀ hN, neg_mul_comm, mul_comm amp, mul_comm amp]
  exact ⟨mul_le_mul_of_nonneg_right h1 hamp, mul_le_mul_of_nonneg_right h2 hamp⟩

theorem arity_enforced (d n : Nat) : arityOK d n = true ↔ n = d := by simp [arityOK]

section Mat
open Matrix
variable {n : Type} [Fintype n] [DecidableEq n] {K : Type} [Field K]

theorem symmetric_is_symm (A : Matrix n n K) : (A + Aᵀ).IsSymm := by
  unfold Matrix.IsSymm; rw [transpose_add, transpose_transpose, add_comm]

theorem antisymmetric_is_antisymm (A : Matrix n n K) : (A - Aᵀ)ᵀ = -(A - Aᵀ) := by
  rw [transpose_sub, transpose_transpose]; abel

theorem diagonal_is_diag (A : Matrix n n K) (i j : n) (h : i ≠ j) : (Matrix.diagonal (fun i => A i i)) i j = 0 :=
  Matrix.diagonal_apply_ne _ h

theorem hermitian_is_herm {R : Type} [Field R] [StarRing R] (A : Matrix n n R) : (A + Aᴴ).IsHermitian := by
  unfold Matrix.IsHermitian; rw [conjTranspose_add, conjTranspose_conjTranspose, add_comm]

theorem antihermitian_is_antiherm {R : Type} [Field R] [StarRing R] (A : Matrix n n R) : (A - Aᴴ)ᴴ = -(A - Aᴴ) := by
  rw [conjTranspose_sub, conjTranspose_conjTranspose]; abel

/-- the traceless projection `W − (tr W / n)·I` -/
theorem traceless_trace_zero (W : Matrix n n K) (hn : (Fintype.card n : K) ≠ 0) :
    trace (W - (trace W / (Fintype.card n : K)) • (1 : Matrix n n K)) = 0 := by
  rw [trace_sub, trace_smul, trace_one, smul_eq_mul, div_mul_cancel₀ _ hn, sub_self]

theorem traceless_preserves_symm (W : Matrix n n K) (c : K) (h : W.IsSymm) : (W - c • (1 : Matrix n n K)).IsSymm := by
  unfold Matrix.IsSymm at *
  rw [transpose_sub, transpose_smul, transpose_one, h]

theorem antisymm_trace_zero (A : Matrix n n K) (h2 : (2 : K) ≠ 0) : trace (A - Aᵀ) = 0 := by
  rw [trace_sub, trace_transpose, sub_self]

theorem scale_preserves_symm (W : Matrix n n K) (k : K) (h : W.IsSymm) : (k • W).IsSymm := by
  unfold Matrix.IsSymm at *; rw [transpose_smul, h]

/-- `make_det_one`: divide by an `n`-th root `c` of the determinant -/
theorem detOne_det (A : Matrix n n K) (c : K) (hc : c ^ Fintype.card n = A.det) (hdet : A.det ≠ 0) :
    (c⁻¹ • A).det = 1 := by
  have hc0 : c ^ Fintype.card n ≠ 0 := by rw [hc]; exact hdet
  rw [det_smul, inv_pow, ← hc, inv_mul_cancel₀ hc0]

/-- `make_det_one`, odd dimension, negative determinant: `-A / (-det)^(1/n)` -/
theorem detOne_det_odd (A : Matrix n n K) (c : K) (hodd : Odd (Fintype.card n)) (hc : c ^ Fintype.card n = -A.det) (hdet : A.det ≠ 0) :
    ((-c⁻¹) • A).det = 1 := by
  rw [det_smul, Odd.neg_pow hodd, inv_pow, hc, inv_neg, neg_neg, inv_mul_cancel₀ hdet]

/-- `make_det_zero`, diagonal branch: one diagonal entry is set to zero -/
theorem detZero_diagonal (d : n → K) (i : n) (h : d i = 0) : (Matrix.diagonal d).det = 0 := by
  rw [det_diagonal]; exact Finset.prod_eq_zero (Finset.mem_univ i) h

/-- `make_det_zero`, eigenvalue branch `A − λ·I` -/
theorem detZero_eigen_preserves_symm (A : Matrix n n K) (ev : K) (h : A.IsSymm) : (A - ev • (1 : Matrix n n K)).IsSymm :=
  traceless_preserves_symm A ev h

end Mat

def allSym : List Symmetry := [.none, .diagonal, .symmetric, .antisymmetric, .hermitian, .antihermitian]
def allCfg (dims : List Nat) : List SqCfg :=
  dims.flatMap fun d => allSym.flatMap fun s => [false, true].flatMap fun t => [none, some 0, some 1].flatMap fun dt =>
    [false, true].map fun c => ⟨d, s, t, dt, c⟩

/-- the `Unknown class configuration` branch of `make_det_one` is dead code -/
theorem detOneBranch_ne_unknown (c : SqCfg) : detOneBranch c ≠ .unknown := by
  unfold detOneBranch
  cases effComplex c <;> cases c.symmetry <;> decide

/-- the constructor has already refused what the assertion of `make_det_one` excludes -/
theorem accepts_detOne (c : SqCfg) (ha : accepts c = true) (hd : c.det = some 1) : detOneAssertion c = true := by
  cases h : (c.symmetry == .antisymmetric || c.symmetry == .antihermitian) && c.dim % 2 == 1
  · rw [detOneAssertion, h]; rfl
  · rw [Bool.and_comm] at h
    simp [accepts, hd, h] at ha

theorem rejected (c : SqCfg) (ha : accepts c = false) :
    (c.det = some 0 ∧ (c.traceless = true ∨ c.symmetry = .antisymmetric)) ∨
    (c.det = some 1 ∧ ((c.dim = 2 ∧ c.traceless = true) ∨ (c.dim % 2 = 1 ∧ (c.symmetry = .antisymmetric ∨ c.symmetry = .antihermitian)))) := by
  -- read off the branch of `__init__` that refused
  unfold accepts at ha
  by_cases h0 : (c.det == some 0) = true
  · rw [if_pos h0] at ha
    refine .inl ⟨eq_of_beq h0, ?_⟩
    by_cases ht : c.traceless = true
    · exact .inl ht
    · by_cases hs : (c.symmetry == .antisymmetric) = true
      · exact .inr (eq_of_beq hs)
      · simp only [if_neg ht, if_neg hs] at ha
        cases ha
  · rw [if_neg h0] at ha
    by_cases h1 : (c.det == some 1) = true
    · rw [if_pos h1] at ha
      refine .inr ⟨eq_of_beq h1, ?_⟩
      split at ha
      · rename_i hA
        simp only [Bool.and_eq_true, beq_iff_eq] at hA
        exact .inl hA.1
      · split at ha
        · rename_i hB
          simp only [Bool.and_eq_true, Bool.or_eq_true, beq_iff_eq] at hB
          exact .inr hB
        · cases ha
    · rw [if_neg h1] at ha
      cases ha

/-- **Every accepted combination that asks for determinant 1 reaches a defined branch of `make_det_one`** and passes its
assertion (stated for dimensions 2–9; the two lemmas used hold for every configuration) -/
theorem constructor_table_consistent :
    ∀ c ∈ allCfg [2, 3, 4, 5, 6, 7, 8, 9], accepts c = true → c.det = some 1 →
      detOneBranch c ≠ .unknown ∧ detOneAssertion c = true :=
  fun c _ ha hd => ⟨detOneBranch_ne_unknown c, accepts_detOne c ha hd⟩

/-- the rejected combinations are exactly the documented impossibilities -/
theorem constructor_rejections :
    ∀ c ∈ allCfg [2, 3, 4, 5], accepts c = false →
      (c.det = some 0 ∧ (c.traceless = true ∨ c.symmetry = .antisymmetric)) ∨
      (c.det = some 1 ∧ ((c.dim = 2 ∧ c.traceless = true) ∨ (c.dim % 2 = 1 ∧ (c.symmetry = .antisymmetric ∨ c.symmetry = .antihermitian)))) :=
  fun c _ => rejected c

open Matrix in
/-- the accepted `determinant = 0`, antisymmetric case -/
theorem odd_antisymm_det_zero {n : Type} [Fintype n] [DecidableEq n] (A : Matrix n n Rat) (hA : Aᵀ = -A) (hodd : Odd (Fintype.card n)) :
    A.det = 0 := by
  have h1 : A.det = (-A).det := by rw [← hA, Matrix.det_transpose]
  rw [Matrix.det_neg, Odd.neg_one_pow hodd, neg_one_mul] at h1
  exact self_eq_neg.mp h1

example : accepts ⟨3, .antisymmetric, false, some 0, false⟩ = true ∧ accepts ⟨2, .hermitian, true, some 1, false⟩ = false := by decide
example : realInterval 3 (-1) (1/2) = 1 := by decide +kernel

/-- **The list model (the function the correspondence run drives) establishes the requested symmetry, entry by entry** -/
theorem applySymmetry_entries (n : ℕ) (a : List Tl.C) (i j : ℕ) (hi : i < n) (hj : j < n) :
    entry n (applySymmetryOnly .symmetric n a) i j = entry n (applySymmetryOnly .symmetric n a) j i ∧
    entry n (applySymmetryOnly .antisymmetric n a) i j = cneg (entry n (applySymmetryOnly .antisymmetric n a) j i) ∧
    entry n (applySymmetryOnly .hermitian n a) i j = conj (entry n (applySymmetryOnly .hermitian n a) j i) ∧
    entry n (applySymmetryOnly .antihermitian n a) i j = cneg (conj (entry n (applySymmetryOnly .antihermitian n a) j i)) ∧
    (i ≠ j → entry n (applySymmetryOnly .diagonal n a) i j = ⟨0, 0⟩) := by
  -- read both entries off `build`; what is left is, per component, commutativity of `+` or `x - y = -(y - x)`
  simp only [applySymmetryOnly, entry_build n _ i j hi hj, entry_build n _ j i hj hi, cadd, csub, conj, cneg, Tl.C.mk.injEq]
  exact ⟨⟨add_comm _ _, add_comm _ _⟩, ⟨by ring, by ring⟩, ⟨add_comm _ _, by ring⟩, ⟨by ring, by ring⟩, fun h => if_neg h⟩

/-- **Traceless** on the list model: the trace is zero afterwards, and only the diagonal has changed -/
theorem applySymmetry_traceless (sym : Symmetry) (n : ℕ) (hn : 0 < n) (a : List Tl.C) :
    Sp.trace n (applySymmetry sym true n a) = ⟨0, 0⟩ ∧
    ∀ i j, i < n → j < n → i ≠ j → entry n (applySymmetry sym true n a) i j = entry n (applySymmetryOnly sym n a) i j := by
  have hnq : (n : ℚ) ≠ 0 := Nat.cast_ne_zero.mpr hn.ne'
  -- the step is `working - trace/dim * eye(dim)`
  simp only [applySymmetry, ↓reduceIte]
  exact ⟨by simp only [trace_build_sub, mul_div_cancel₀ _ hnq, sub_self],
    fun i j hi hj hne => by rw [entry_build n _ i j hi hj, if_neg hne]⟩

end C12
