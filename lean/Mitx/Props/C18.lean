import Mitx.Model.StringG
import Mitx.Lemmas.StringClean
/-! # C18 — StringGrader matches exactly the inputs equal after the configured cleaning

Model: `SG.clean`, `SG.checkResponse` (regex verdicts and case folding are parameters). -/
namespace C18
open SG Gr

def isControl (c : Char) : Prop := c = '\t' ∨ c = '\r' ∨ c = '\n'

/-- after the first step no tab, CR or LF is left -/
theorem controls_gone (l : List Char) : ∀ c ∈ controlsToSpaces l, ¬ isControl c := by
  intro c hc hcon
  rcases controlsToSpaces_mem hc with h | ⟨_, ht, hr, hn⟩
  · rw [h] at hcon
    exact absurd hcon (by unfold isControl; decide)
  · exact hcon.elim ht fun h => h.elim hr hn

/-- `strip_all` leaves no space at all -/
theorem strip_all_no_space (lower : List Char → List Char) (f : Flags) (s : List Char) (h : f.stripAll = true) :
    ' ' ∉ clean lower f s := by
  have key : ∀ (b : Bool) (l : List Char), ' ' ∉ (if b then collapse (l.filter (· != ' ')) else l.filter (· != ' ')) := by
    intro b l hm
    cases b
    · simp at hm
    · simpa using collapse_mem hm
  unfold clean
  simp only [h, if_true]
  exact key _ _

theorem clean_spaces_no_double (lower : List Char → List Char) (f : Flags) (s : List Char) (h : f.cleanSpaces = true)
    (a b : List Char) : clean lower f s ≠ a ++ ' ' :: ' ' :: b := by
  unfold clean; simp only [h, if_true]; exact collapse_no_double _ a b

def correct (m : AnsMeta) : IRes := { ok := m.ok, grade := m.grade, msg := m.msg }
def wrong : IRes := { ok := .no, grade := 0, msg := "" }

/-- **Matching mode**: a submission matches exactly when the two cleaned strings are identical. -/
theorem match_iff_clean_eq (lower : List Char → List Char) (cfg : Cfg) (fe fs : Bool) (m : AnsMeta) (e st : String)
    (hany : cfg.acceptAny = false) (hne : cfg.acceptNonempty = false) (hp : cfg.hasPattern = false) :
    checkResponse lower cfg fe fs m e st =
      .ok (if clean lower cfg.flags st.toList = clean lower cfg.flags e.toList then correct m else wrong) := by
  unfold checkResponse correct wrong
  simp only [hany, hne, hp, Bool.or_self, Bool.not_false, Bool.false_eq_true, ↓reduceIte, bne_iff_ne, ne_eq, ite_not]
  split <;> rfl

/-- refusals happen in the way the `explain_*` option prescribes -/
theorem refusal_mode (cfg : Cfg) (msg : String) :
    constructMessage cfg msg .err = .error (.mitx "InvalidInput" msg) ∧
    constructMessage cfg msg .msg = .ok { ok := .no, grade := 0, msg := msg } ∧
    constructMessage cfg msg .none = .ok { ok := .no, grade := 0, msg := if cfg.debug then msg else "" } :=
  ⟨rfl, rfl, rfl⟩

/-- **Validation pattern**: whatever the mode, a cleaned submission the pattern does not match entirely is refused in
    the way `explain_validation` prescribes (provided the author's own answer is valid, which is otherwise a ConfigError). -/
theorem validation_whole (lower : List Char → List Char) (cfg : Cfg) (fe : Bool) (m : AnsMeta) (e st : String)
    (hp : cfg.hasPattern = true) (hauthor : (cfg.acceptAny || cfg.acceptNonempty) = true ∨ fe = true) :
    checkResponse lower cfg fe false m e st = constructMessage cfg cfg.invalidMsg cfg.explainValidation := by
  unfold checkResponse
  simp only [hp, if_true, Bool.not_false]
  rcases hauthor with h | h
  · simp [h]
  · simp [h]

theorem author_answer_must_match (lower : List Char → List Char) (cfg : Cfg) (fs : Bool) (m : AnsMeta) (e st : String)
    (hp : cfg.hasPattern = true) (hany : cfg.acceptAny = false) (hne : cfg.acceptNonempty = false) :
    ∃ msg, checkResponse lower cfg false fs m e st = .error (Err.config msg) := by
  unfold checkResponse
  simp only [hp, hany, hne, Bool.or_self, Bool.not_false, Bool.and_self, if_true]
  exact ⟨_, rfl⟩

/-- **accept_any / accept_nonempty**: accepted exactly when the cleaned submission has at least `min_length` characters
    (at least 1 under accept_nonempty) and at least `min_words` words; otherwise refused as `explain_minimums` prescribes,
    the words message taking precedence over the characters message. -/
theorem accept_any_iff (lower : List Char → List Char) (cfg : Cfg) (fe : Bool) (m : AnsMeta) (e st : String)
    (hany : (cfg.acceptAny || cfg.acceptNonempty) = true) (hp : cfg.hasPattern = false ∨ True) (hfs : cfg.hasPattern = false) :
    let student := clean lower cfg.flags st.toList
    let minLen := if cfg.acceptNonempty && cfg.minLength == 0 then 1 else cfg.minLength
    (minLen ≤ student.length ∧ cfg.minWords ≤ wordCount student → checkResponse lower cfg fe true m e st = .ok (correct m)) ∧
    (¬ (minLen ≤ student.length ∧ cfg.minWords ≤ wordCount student) →
      ∃ msg, checkResponse lower cfg fe true m e st = constructMessage cfg msg cfg.explainMinimums) := by
  unfold checkResponse correct
  simp only [hany, hfs, Bool.not_true, Bool.false_eq_true, ↓reduceIte]
  generalize clean lower cfg.flags st.toList = student
  generalize (if (cfg.acceptNonempty && cfg.minLength == 0) = true then 1 else cfg.minLength) = minLen
  constructor
  · rintro ⟨h1, h2⟩
    rw [if_neg (Nat.not_lt.mpr h2), if_neg (Nat.not_lt.mpr h1)]
    rfl
  · intro h
    by_cases h2 : wordCount student < cfg.minWords
    · rw [if_pos h2]
      exact ⟨_, rfl⟩
    · rw [if_neg h2, if_pos (Nat.lt_of_not_le fun h1 => h ⟨h1, Nat.le_of_not_lt h2⟩)]
      exact ⟨_, rfl⟩

/-- **Nothing but whitespace and case is ever touched.** For all 16 flag combinations the non-whitespace characters of the
    cleaned string are those of the input, in order, folded character by character when `case_sensitive` is off (`lc` never
    turns a character into whitespace or back) and untouched otherwise. -/
theorem clean_preserves_nonspace (lc : Char → Char) (hlc : ∀ c, pyIsSpace (lc c) = pyIsSpace c) (f : Flags) (s : List Char) :
    (clean (List.map lc) f s).filter nonWs =
      if f.caseSensitive then s.filter nonWs else (s.filter nonWs).map lc := by
  unfold clean
  simp only
  rw [filter_ite filter_collapse, filter_ite filter_noSpace, filter_ite filter_strip]
  cases f.caseSensitive
  · simp only [Bool.false_eq_true, ↓reduceIte]
    rw [filter_map_lc lc hlc, filter_controls]
  · simp only [↓reduceIte]
    rw [filter_controls]

/-- instance for the executable case folding of the model (ASCII + Latin-1) -/
theorem clean_preserves_nonspace_exec (f : Flags) (s : List Char) :
    (clean lowerL f s).filter nonWs = if f.caseSensitive then s.filter nonWs else (s.filter nonWs).map lowerChar :=
  clean_preserves_nonspace lowerChar lowerChar_ws f s

/-- hence matching can never hide a changed, missing or extra visible character -/
theorem match_implies_same_visible (lc : Char → Char) (hlc : ∀ c, pyIsSpace (lc c) = pyIsSpace c) (f : Flags) (s t : List Char)
    (h : clean (List.map lc) f s = clean (List.map lc) f t) :
    (if f.caseSensitive then s.filter nonWs else (s.filter nonWs).map lc) =
      (if f.caseSensitive then t.filter nonWs else (t.filter nonWs).map lc) := by
  rw [← clean_preserves_nonspace lc hlc f s, ← clean_preserves_nonspace lc hlc f t, h]

example : clean lowerL ⟨false, true, false, true⟩ "  Hello \t\r\n  WÖRLD ".toList = "hello wörld".toList := by decide +kernel

end C18
