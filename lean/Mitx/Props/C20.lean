import Mitx.Lemmas.Schema
import Mitx.Lemmas.Answers
import Mitx.Generated.Schemas
import Mitx.Model.SchemaTables
/-! # C20 — configuration validation enforces documented option domains and fills defaults

Model: `Sc.accepts` / `Sc.validateDict` (the fragment of voluptuous the library uses). The generic theorems hold for every
schema of the fragment; the obligations are about the schemas regenerated from the live classes on every run (`GenSch`). -/
namespace C20
open Sc

variable (prims : String → PyVal → Bool)

/-- **Every option is present in the validated configuration, carrying the supplied value or its default** (option names
are distinct) -/
theorem defaults_filled : ∀ (fields : List Field) (cfg out : List (String × PyVal)),
    (fields.map (·.name)).Nodup → validateFields prims fields cfg = .ok out →
    ∀ f ∈ fields, out.lookup f.name = (match cfg.lookup f.name with | some v => some v | Option.none => f.default) := by
  intro fields cfg out hnd h f hf
  rw [← ((validateFields_ok_iff prims).mp h).2.2]
  exact lookup_filterMap_name hnd f hf

/-- **Unknown option names are rejected** (unless the schema allows extra keys) -/
theorem unknown_key_rejected (fields : List Field) (cfg : List (String × PyVal)) (k : String)
    (hk : k ∈ cfg.map (·.1)) (hu : ∀ f ∈ fields, f.name ≠ k) :
    ∃ k', validateDict prims fields false cfg = .error (.unknownKey k') := by
  unfold validateDict
  have hmem : k ∈ unknownKeys fields cfg := by
    simp only [unknownKeys, List.mem_filter, Bool.not_eq_eq_eq_not, Bool.not_true, List.any_eq_false, beq_iff_eq]
    exact ⟨hk, fun f hf => hu f hf⟩
  cases hl : unknownKeys fields cfg with
  | nil => rw [hl] at hmem; cases hmem
  | cons k' ks => exact ⟨k', by simp⟩

/-- an out-of-domain value of a known option makes validation fail -/
theorem invalid_value_rejected : ∀ (fields : List Field) (cfg : List (String × PyVal)) (f : Field) (v : PyVal),
    f ∈ fields → cfg.lookup f.name = some v → accepts prims f.spec v = false →
    (fields.map (·.name)).Nodup → ∃ e, validateFields prims fields cfg = .error e := by
  intro fields cfg f v hf hv hacc _
  cases h : validateFields prims fields cfg with
  | error e => exact ⟨e, rfl⟩
  | ok out => rw [((validateFields_ok_iff prims).mp h).1 f hf v hv] at hacc; cases hacc

/-- **Validation is idempotent: a constructed object's configuration validates to itself** — provided option names are
distinct and every default lies in the domain of its own option (the obligation on the regenerated schemas below checks the
first, and the second with `defaultsOK`, which counts every named validator as satisfied) -/
theorem validate_idempotent (fields : List Field) (cfg out : List (String × PyVal))
    (hnd : (fields.map (·.name)).Nodup) (hdef : ∀ f ∈ fields, ∀ d, f.default = some d → accepts prims f.spec d = true)
    (h : validateFields prims fields cfg = .ok out) : validateFields prims fields out = .ok out := by
  obtain ⟨hacc, hreq, hout⟩ := (validateFields_ok_iff prims).mp h
  have hl := defaults_filled prims fields cfg out hnd h
  -- re-validation binds every option to the value it already has
  have hb : ∀ f ∈ fields, bound out f = bound cfg f := fun f hf => by
    unfold bound
    rw [hl f hf]
    cases cfg.lookup f.name <;> cases f.default <;> rfl
  refine (validateFields_ok_iff prims).mpr
    ⟨fun f hf v hv => ?_, fun f hf => hb f hf ▸ hreq f hf, (List.filterMap_congr fun f hf => by rw [hb f hf]).trans hout⟩
  rw [hl f hf] at hv
  split at hv
  · next w hw => cases hv; exact hacc f hf _ hw
  · exact hdef f hf v hv

/-- keyword-argument and dictionary forms go through the same validation: the result depends on the supplied bindings only
through `lookup` -/
theorem validate_depends_on_lookup : ∀ (fields : List Field) (c1 c2 : List (String × PyVal)),
    (∀ k, c1.lookup k = c2.lookup k) → validateFields prims fields c1 = validateFields prims fields c2 := by
  intro fields
  induction fields with
  | nil => intro c1 c2 _; rfl
  | cons f fs ih =>
    intro c1 c2 h
    simp only [validateFields, h f.name, ih c1 c2 h]

def specFields : Spec → List Field
  | .dict fields _ => fields
  | _ => []

/-- in every class's schema: option names are distinct and every default lies in the domain of its own option -/
theorem generated_schemas_wellformed :
    ∀ p ∈ GenSch.all, (fieldNames (specFields p.2)).Nodup ∧ defaultsOK (specFields p.2) = true := by
  decide +kernel

/-- the regenerated schemas equal the reviewed copy `Sch.fingerprint` (option names, required/optional, defaults, domains) -/
theorem generated_schemas_match_documented : GenSch.fingerprint = Sch.fingerprint := rfl


/-- **Canonical answers.** Whatever form the author used (bare expect value or dictionary, single value or tuple of
    alternatives), a validated answer has all four keys, a credit in [0,1], and an `ok` that is the one computed from the credit
    unless the credit is exactly 1 (only a full-credit answer keeps an `ok` set by the author). -/
theorem answers_canonical {ε δ : Type} {vExp : ε → Option δ} {d : Option (List δ)} {r : Av.Raw ε} {c : Av.Canon δ}
    (h : Av.validateSingle vExp d r = some c) :
    0 ≤ c.grade ∧ c.grade ≤ 1 ∧ (c.ok ≠ At.gradeToOk c.grade → c.grade = 1) :=
  Av.validate_canonical h

/-- the bare form and the dictionary form of an answer are equivalent (for graders whose expect values are never themselves
    dictionaries, so that the "whole dictionary as an expect value" fallback cannot apply) -/
theorem answers_bare_eq_dict {ε δ : Type} (vExp : ε → Option δ) (x : Av.Exp ε) :
    Av.validateSingle vExp none (.bare x) = Av.validateSingle vExp none (.dict (some x) none none none false) := by
  rw [Av.bare_eq_dict]
  simp only [Av.validateSingle]
  cases Av.schemaAnswer vExp (some x) none none none false <;> rfl

/-- **Constructing again from the exposed configuration yields the same answers**: re-validating a canonical answer is the
    identity (given that `validate_expect` accepts its own outputs unchanged) -/
theorem answers_revalidate {ε δ : Type} {vExp : ε → Option δ} {d : Option (List δ)} {r : Av.Raw ε} {c : Av.Canon δ}
    (h : Av.validateSingle vExp d r = some c) (v : δ → Option δ) (d' : Option (List δ)) (hexp : ∀ e ∈ c.expect, v e = some e) :
    Av.validateSingle v d' c.toRaw = some c := by
  obtain ⟨h0, h1, hok⟩ := Av.validate_canonical h
  exact Av.revalidate_canonical v d' c hexp h0 h1 hok

/-- validated answers meet the well-formedness hypothesis of the C01 grader-tree theorems -/
theorem validated_answers_meet_C01_hypothesis {ε : Type} {vExp : ε → Option String} {d : Option (List String)}
    {answers : List (Av.Raw ε)} {cs : List (Av.Canon String)} (h : Av.schemaAnswers vExp d answers = some cs) :
    Gr.AnsWF true (cs.map Av.toAnswer) ∧ ((∀ c ∈ cs, c.ok = At.gradeToOk c.grade) → Gr.AnsWF false (cs.map Av.toAnswer)) := by
  have key : ∀ pin, (pin = false → ∀ c ∈ cs, c.ok = At.gradeToOk c.grade) → Gr.AnsWF pin (cs.map Av.toAnswer) := by
    refine fun pin hun => .mk _ (fun a ha => ?_) (fun a ha e he => ?_) <;> obtain ⟨c, hc, rfl⟩ := List.mem_map.mp ha
    · obtain ⟨r, -, hr⟩ := (List.mapM_eq_some_iff.mp h).mem_right c hc
      exact ⟨(Av.validate_canonical hr).1, (Av.validate_canonical hr).2.1, fun hp => hun hp c hc⟩
    · obtain ⟨s, -, rfl⟩ := List.mem_map.mp he
      exact .str s
  exact ⟨key true (fun hp => nomatch hp), fun hun => key false (fun _ => hun)⟩

example : Av.schemaAnswers (fun (e : Option String) => e) none
    [.bare (.one (some "cat")), .dict (some (.tuple [some "dog", some "wolf"])) (some (1/2)) (some "m") none false]
    = some [⟨["cat"], 1, "", .yes⟩, ⟨["dog", "wolf"], 1/2, "m", .part⟩] := by decide +kernel
example : Av.schemaAnswers (fun (e : Option String) => e) none [.dict (some (.one (some "cat"))) (some (3/2)) none none false] = none := by
  decide +kernel

end C20
