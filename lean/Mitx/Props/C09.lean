import Mitx.Lemmas.Restrict
import Mitx.Props.C10
import Mitx.Lemmas.Depend
/-! # C09 — restrictions on student formulas cannot be bypassed to obtain credit

Model `Rs`; the numeric verdict `raw` is a parameter. By `C10.usage_exact` the names the validators see are exactly the names
occurring anywhere in the parse tree. -/
namespace C09
open Rs C03

/-- a formula that earns nothing is returned as graded (no error is invented) -/
theorem no_credit_passthrough {cfg : Cfg} {raw : At.Res} {exprs used : List String}
    (hc : ¬ (raw.ok = .yes ∨ raw.ok = .part ∨ raw.grade > 0)) : checkMath cfg raw exprs used = .ok raw :=
  if_neg hc

/-- **Whenever credit is awarded (correct, partial, or any positive grade) the formula passed every restriction** -/
theorem credit_implies_clean {cfg : Cfg} {raw r : At.Res} {exprs used : List String}
    (h : checkMath cfg raw exprs used = .ok r) (hc : r.ok = .yes ∨ r.ok = .part ∨ r.grade > 0) :
    forbiddenUsed exprs cfg.forbidden = false ∧ (∀ f ∈ cfg.required, f ∈ used) ∧
    (∀ f ∈ used, isPermitted cfg.defaults cfg.whitelist cfg.blacklist cfg.userFuncs f = true) := by
  by_cases hraw : raw.ok = .yes ∨ raw.ok = .part ∨ raw.grade > 0
  · rw [checkMath_credit hraw] at h
    cases hp : postEval cfg exprs used with
    | some x => rw [hp] at h; cases h
    | none => exact postEval_eq_none_iff.mp hp
  · rw [no_credit_passthrough hraw] at h
    cases h
    exact absurd hc hraw

/-- a formula that would earn credit is refused if it contains a forbidden string -/
theorem forbidden_string_refused {cfg : Cfg} {raw : At.Res} {exprs used : List String}
    (hc : raw.ok = .yes ∨ raw.ok = .part ∨ raw.grade > 0) (hf : forbiddenUsed exprs cfg.forbidden = true) :
    checkMath cfg raw exprs used = .error .forbidden := by
  simp [checkMath_credit hc, postEval, hf]

/-- a formula that would earn credit is refused if it omits a required function -/
theorem missing_required_refused {cfg : Cfg} {raw : At.Res} {exprs used : List String} {f : String}
    (hc : raw.ok = .yes ∨ raw.ok = .part ∨ raw.grade > 0) (hr : f ∈ cfg.required) (hu : f ∉ used) :
    ∃ e, checkMath cfg raw exprs used = .error e :=
  refused_of_not_clean hc fun h => hu ((postEval_eq_none_iff.mp h).2.1 f hr)

/-- **anywhere in the tree**: a call of a non-permitted function in any sub-expression (argument position, array entry,
exponent, cancelling term) is seen by the validator, because the usage set is exactly the set of names of the tree -/
theorem hidden_call_refused {cfg : Cfg} {raw : At.Res} {exprs : List String} {ts : List Tok} {t : T} {sc : Sc} {f : String}
    (hparse : parseUsage ts = some (t, sc)) (hocc : (Kind.func, f) ∈ names t)
    (hc : raw.ok = .yes ∨ raw.ok = .part ∨ raw.grade > 0)
    (hp : isPermitted cfg.defaults cfg.whitelist cfg.blacklist cfg.userFuncs f = false) :
    ∃ e, checkMath cfg raw exprs (pick .func sc) = .error e := by
  refine refused_of_not_clean hc fun h => ?_
  have := (postEval_eq_none_iff.mp h).2.2 f ((mem_pick _ _ _).mpr ((C10.usage_exact hparse _).mpr hocc))
  rw [hp] at this; cases this

/-- closed form of `get_permitted_functions` -/
theorem permitted_spec (defaults blacklist always : List String) (wl : Whitelist) (f : String) :
    isPermitted defaults wl blacklist always f = true ↔
      match wl with
      | .unset => (f ∈ always ∨ f ∈ defaults) ∧ f ∉ blacklist
      | .nothing => f ∈ always
      | .only l => f ∈ always ∨ f ∈ l := by
  cases wl <;> simp [isPermitted]

/-- without a whitelist, a blacklisted function is not permitted -/
theorem blacklisted_not_permitted (defaults blacklist always : List String) (f : String) (h : f ∈ blacklist) :
    isPermitted defaults .unset blacklist always f = false := by
  simp [isPermitted, h]

/-- with a whitelist, a function neither in it nor among the author's own is not permitted -/
theorem not_whitelisted_not_permitted (defaults blacklist always l : List String) (f : String) (h1 : f ∉ l) (h2 : f ∉ always) :
    isPermitted defaults (.only l) blacklist always f = false := by
  simp [isPermitted, h1, h2]

/-- `isSubstr` is Python's substring test -/
theorem isSubstr_iff (n h : List Char) : isSubstr n h = true ↔ ∃ a b, h = a ++ n ++ b :=
  (isSubstr_iff_infix n h).trans ⟨fun ⟨a, b, e⟩ => ⟨a, b, e.symm⟩, fun ⟨a, b, e⟩ => ⟨a, b, e.symm⟩⟩

/-- two spellings of the formula (or of the forbidden string) that differ only by spaces are treated alike -/
theorem forbidden_ignores_spaces (e1 e2 : String) (F : List String) (h : stripSpaces e1.toList = stripSpaces e2.toList) :
    forbiddenUsed [e1] F = forbiddenUsed [e2] F := by
  simp [forbiddenUsed, h]

theorem stripSpaces_idem (s : List Char) : stripSpaces (stripSpaces s) = stripSpaces s := by
  simp [stripSpaces, List.filter_filter]

theorem stripSpaces_append (a b : List Char) : stripSpaces (a ++ b) = stripSpaces a ++ stripSpaces b := by
  simp [stripSpaces]

theorem stripSpaces_space (a b : List Char) : stripSpaces (a ++ ' ' :: b) = stripSpaces (a ++ b) := by
  simp [stripSpaces]

/-- **A variable that occurs anywhere in the tree and is not in the student's scope makes the formula undefined** — the
check happens before evaluation and does not depend on any value (`+z-z`, `z^0`, `0*z` are refused alike) -/
theorem hidden_name_undefined {vars funcs sufs : String → Bool} {ts : List Tok} {t : T} {sc : Sc} {z : String}
    (hparse : parseUsage ts = some (t, sc)) (hocc : (Kind.var, z) ∈ names t) (hz : vars z = false) :
    ∃ l, checkScope vars funcs sufs sc = some (.undefinedVariable l) ∧ z ∈ l := by
  have hbv : z ∈ (pick .var sc).filter (fun v => !vars v) := mem_filter_pick.mpr ⟨(C10.usage_exact hparse _).mpr hocc, hz⟩
  refine ⟨_, if_pos ?_, (Dp.mem_sortedSet _ _).mpr hbv⟩
  cases h : (pick .var sc).filter (fun v => !vars v) with
  | nil => rw [h] at hbv; cases hbv
  | cons a b => rfl

/-- an unknown function anywhere in the tree is an UndefinedFunction error (after the variables have been checked) -/
theorem hidden_function_undefined {vars funcs sufs : String → Bool} {ts : List Tok} {t : T} {sc : Sc} {f : String}
    (hparse : parseUsage ts = some (t, sc)) (hocc : (Kind.func, f) ∈ names t) (hf : funcs f = false) :
    ∃ e, checkScope vars funcs sufs sc = some e ∧ (∀ l, e ≠ .undefinedSuffix l) := by
  have hbf : f ∈ (pick .func sc).filter (fun v => !funcs v) := mem_filter_pick.mpr ⟨(C10.usage_exact hparse _).mpr hocc, hf⟩
  simp only [checkScope]
  generalize (pick .var sc).filter _ = bv
  generalize (pick .func sc).filter _ = bf at hbf
  cases bv with
  | cons a l => exact ⟨_, rfl, fun l h => by cases h⟩
  | nil =>
    cases bf with
    | cons a l => exact ⟨_, rfl, fun l h => by cases h⟩
    | nil => cases hbf

theorem declared_in_scope (sample instr sibs : List String) (v : String)
    (h1 : v ∈ sample) (h2 : v ∉ instr) (h3 : v ∉ sibs) : studentScope sample instr sibs v = true := by
  simp [studentScope, h1, h2, h3]

/-- the scratch sets of the three formula entries of a sum / integral -/
def entrySc (l u b : Sc) : Entry → Sc
  | .lower => l | .upper => u | .body => b

/-- **A typed entry may not mention an instructor variable**: an instructor-only variable occurring anywhere (cancelling or not)
in an entry the student is asked for makes the submission a scope error (mirrors the code after fix F13). -/
theorem typed_entry_hidden {sample instr : List String} {funcs sufs : String → Bool} {asked : Entry → Bool} {dummy : String}
    {tl tu tb : List Tok} {l u b : T} {scl scu scb : Sc} {e : Entry} {z : String}
    (hl : parseUsage tl = some (l, scl)) (hu : parseUsage tu = some (u, scu)) (hb : parseUsage tb = some (b, scb))
    (hasked : asked e = true) (hz : z ∈ instr) (hzs : z ∈ sample) (hd : z ≠ dummy)
    (hocc : (Kind.var, z) ∈ names (match e with | .lower => l | .upper => u | .body => b)) :
    sumScopeCheck sample instr funcs sufs asked dummy scl scu scb ≠ none := by
  have hhid : entryScope sample instr asked e z = false := by
    simp only [entryScope, hasked, ↓reduceIte]
    exact instructor_and_sibling_hidden sample instr [] z (Or.inl ⟨hz, hzs⟩)
  intro h
  obtain ⟨h1, h2, h3⟩ := sumScopeCheck_eq_none_iff.mp h
  cases e with
  | lower => simpa [hhid] using (checkScope_eq_none_iff.mp h1).1 z ((C10.usage_exact hl _).mpr hocc)
  | upper => simpa [hhid] using (checkScope_eq_none_iff.mp h2).1 z ((C10.usage_exact hu _).mpr hocc)
  | body => simpa [bodyScope, hhid, hd] using (checkScope_eq_none_iff.mp h3).1 z ((C10.usage_exact hb _).mpr hocc)

/-- **The author's own entries remain free to use instructor variables** (after fix F13): entries the student is not asked for may use
every sampled name, typed entries the student's scope, the body also the dummy variable. -/
theorem author_entries_free {sample instr : List String} {funcs sufs : String → Bool} {asked : Entry → Bool} {dummy : String}
    {scl scu scb : Sc}
    (hv : ∀ e x, (Kind.var, x) ∈ entrySc scl scu scb e → (e = .body ∧ x = dummy) ∨
        (if asked e then studentScope sample instr [] x = true else x ∈ sample))
    (hf : ∀ e x, (Kind.func, x) ∈ entrySc scl scu scb e → funcs x = true)
    (hs : ∀ e x, (Kind.suf, x) ∈ entrySc scl scu scb e → sufs x = true) :
    sumScopeCheck sample instr funcs sufs asked dummy scl scu scb = none := by
  have scopeOf : ∀ e x, (Kind.var, x) ∈ entrySc scl scu scb e → ¬(e = .body ∧ x = dummy) → entryScope sample instr asked e x = true := by
    intro e x hx hnd
    have h := (hv e x hx).resolve_left hnd
    unfold entryScope
    cases ha : asked e <;> simpa [ha] using h
  refine sumScopeCheck_eq_none_iff.mpr ⟨?_, ?_, ?_⟩
  · exact checkScope_eq_none_iff.mpr ⟨fun x hx => scopeOf .lower x hx (by simp), hf .lower, hs .lower⟩
  · exact checkScope_eq_none_iff.mpr ⟨fun x hx => scopeOf .upper x hx (by simp), hf .upper, hs .upper⟩
  · refine checkScope_eq_none_iff.mpr ⟨fun x hx => ?_, hf .body, hs .body⟩
    unfold bodyScope
    by_cases hd : x = dummy
    · simp [hd]
    · simp [scopeOf .body x hx (by simp [hd])]

end C09
