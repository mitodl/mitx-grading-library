import Mitx.Model.MathConfig
/-! # C20 — cross-option rules of the math graders (model `Mc`) -/
namespace C20
open Mc

def isOverride : Err → Bool
  | .override _ _ => true
  | _ => false

theorem orElse'_eq_none_iff {a b : Option Err} : orElse' a b = none ↔ a = none ∧ b = none := by
  cases a <;> simp [orElse']

theorem orElse'_eq_some_iff {a b : Option Err} {x : Err} : orElse' a b = some x ↔ a = some x ∨ a = none ∧ b = some x := by
  cases a <;> simp [orElse']

theorem warn_eq_some {s : Bool} {key : String} {e d : List String} {x : Err} (h : warn s key e d = some x) :
    s = false ∧ isOverride x = true := by
  simp only [warn] at h
  split at h
  · next hc => cases h; cases s <;> simp_all [isOverride]
  · cases h

theorem checkOverrides_eq_some {c : Cfg} {x : Err} (h : checkOverrides c = some x) : c.suppress = false ∧ isOverride x = true := by
  simp only [checkOverrides, orElse'_eq_some_iff] at h
  rcases h with h | ⟨_, h | ⟨_, h | ⟨_, h⟩⟩⟩ <;> exact warn_eq_some h

theorem checkLists_eq_some {c : Cfg} {x : Err} (h : checkLists c = some x) : isOverride x = false := by
  unfold checkLists at h
  split at h
  · cases h; rfl
  · split at h
    · cases h; rfl
    · split at h
      · obtain ⟨a, _, rfl⟩ := Option.map_eq_some_iff.mp h; rfl
      · cases h

theorem checkCollisions_eq_some {c : Cfg} {x : Err} (h : checkCollisions c = some x) : isOverride x = false := by
  simp only [checkCollisions] at h
  split at h
  · cases h; rfl
  · cases h

/-- **`suppress_warnings` silences the override warnings and nothing else**: the hard rules (both lists, unknown function in a
list, variable colliding with a user constant) give the same error either way, and with it set no override warning is raised -/
theorem suppress_only_silences_overrides (c : Cfg) :
    (∀ x, validate { c with suppress := true } = some x → isOverride x = false ∧ (validate c = some x ∨ ∃ y, validate c = some y ∧ isOverride y = true)) ∧
    (∀ x, validate c = some x → isOverride x = false → validate { c with suppress := true } = some x) := by
  have hl : checkLists { c with suppress := true } = checkLists c := rfl
  have hc : checkCollisions { c with suppress := true } = checkCollisions c := rfl
  have ho : checkOverrides { c with suppress := true } = none := by
    cases h : checkOverrides { c with suppress := true } with
    | none => rfl
    | some x => cases (checkOverrides_eq_some h).1
  simp only [validate, hl, hc, ho, orElse'_eq_some_iff, true_and, reduceCtorEq, false_or]
  constructor
  · rintro x (h | ⟨h1, h⟩)
    · exact ⟨checkLists_eq_some h, .inl (.inl h)⟩
    · refine ⟨checkCollisions_eq_some h, ?_⟩
      cases h2 : checkOverrides c with
      | none => exact .inl (.inr ⟨h1, .inr ⟨rfl, h⟩⟩)
      | some y => exact .inr ⟨y, .inr ⟨h1, .inl rfl⟩, (checkOverrides_eq_some h2).2⟩
  · rintro x (h | ⟨h1, h | ⟨_, h⟩⟩) hno
    · exact .inl h
    · rw [(checkOverrides_eq_some h).2] at hno; cases hno
    · exact .inr ⟨h1, h⟩

/-- using both a blacklist and a whitelist (also `whitelist=[None]`) is refused whatever else is configured -/
theorem both_lists_refused (c : Cfg) (hb : c.blacklist ≠ []) (hw : whitelistNonempty c.whitelist = true) : validate c = some .both := by
  have : c.blacklist.isEmpty = false := by simpa using hb
  simp [validate, checkLists, this, hw, orElse']

/-- a blacklisted name that is not one of the grader's own default functions is refused -/
theorem unknown_blacklisted_refused (c : Cfg) (hw : whitelistNonempty c.whitelist = false) (f : String) (hf : f ∈ c.blacklist)
    (hu : c.defaultFuncs.contains f = false) : ∃ g, validate c = some (.unknownBlack g) ∧ g ∈ c.blacklist ∧ c.defaultFuncs.contains g = false := by
  cases hg : c.blacklist.find? (fun f => !c.defaultFuncs.contains f) with
  | none =>
    have := List.find?_eq_none.mp hg f hf
    simp only [hu, Bool.not_false, not_true_eq_false] at this
  | some g =>
    refine ⟨g, ?_, List.mem_of_find?_eq_some hg, by simpa using List.find?_some hg⟩
    simp only [validate, checkLists, hw, Bool.and_false, Bool.false_eq_true, ↓reduceIte, hg, orElse']

/-- construction passes the cross-option validation exactly when each of the three groups of rules passes -/
theorem validate_none_iff (c : Cfg) : validate c = none ↔ checkLists c = none ∧ checkOverrides c = none ∧ checkCollisions c = none := by
  simp only [validate, orElse'_eq_none_iff]

/-- no collision error ⇔ no declared variable is also a (kept) user constant -/
theorem checkCollisions_none_iff (c : Cfg) :
    checkCollisions c = none ↔ ∀ x, (x, false) ∈ c.userConstants → x ∉ c.variables := by
  simp only [checkCollisions]
  generalize hd : (constants' c).filter (fun e => c.variables.contains e) = dups
  have : dups = [] ↔ ∀ x, (x, false) ∈ c.userConstants → x ∉ c.variables := by
    simp [← hd, constants', List.filter_eq_nil_iff]
  rw [← this]
  cases dups <;> simp

/-- a declared variable that is also a (kept) user constant is refused unless an earlier rule already refused the configuration -/
theorem collision_refused (c : Cfg) (x : String) (hv : x ∈ c.variables) (hc : (x, false) ∈ c.userConstants) : validate c ≠ none :=
  fun h => (checkCollisions_none_iff c).mp ((validate_none_iff c).mp h).2.2 x hc hv

example : validate ⟨["sin", "cos"], ["pi", "e"], ["cos"], .nothing, ["x"], [], [], [], true⟩ = some .both ∧
    validate ⟨["sin", "cos"], ["pi", "e"], ["tan"], .unset, ["x"], [], [], [], true⟩ = some (.unknownBlack "tan") ∧
    validate ⟨["sin", "cos"], ["pi", "e"], [], .unset, ["x", "pi"], [], [], [], false⟩ = some (.override "variables" ["pi"]) ∧
    validate ⟨["sin", "cos"], ["pi", "e"], [], .unset, ["x", "pi"], [], [("pi", true)], [], false⟩ = none ∧
    validate ⟨["sin", "cos"], ["pi", "e"], [], .unset, ["x", "y"], [], [("c", false), ("y", false)], [], true⟩ = some (.collision "user_constants" "variables" ["y"]) := by
  decide +kernel

end C20
