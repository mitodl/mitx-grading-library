import Mitx.Lemmas.MunkresHeap
/-! # C06 — "it leaves the caller's matrix unmodified", on the object-identity model `MkH` -/
namespace C06
open Mk MkH

/-- the heap model returns exactly what the value model returns (so `solver_rect` etc. apply to it) -/
theorem heap_result_eq (mode : PadMode) (h : Heap) (caller : List Nat) :
    (computeH mode h caller).map (·.2) = compute (readMatrix h caller) := by
  unfold computeH compute finalState resultOf
  simp only [Option.bind_eq_bind, Option.pure_def]
  cases run _ _ _ <;> rfl

/-- **The caller's matrix is unmodified**: with `pad_matrix` copying the rows, every row object that existed before the
call (so every row of the caller's matrix) has the same contents and length afterwards. -/
theorem caller_unmodified (h : Heap) (caller : List Nat) {h' : Heap} {out : List (Nat × Nat)}
    (hc : computeH .copy h caller = some (h', out)) :
    ∀ id, id < h.next → h'.row id = h.row id ∧ h'.len id = h.len id :=
  (copy_extends hc).2

/-- the matrix the caller reads back is the matrix it passed in -/
theorem caller_reads_same (h : Heap) (caller : List Nat) {h' : Heap} {out : List (Nat × Nat)}
    (hc : computeH .copy h caller = some (h', out)) (hcall : ∀ id ∈ caller, id < h.next) :
    readMatrix h' caller = readMatrix h caller := by
  unfold readMatrix
  apply List.map_congr_left
  intro id hid
  obtain ⟨h1, h2⟩ := caller_unmodified h caller hc id (hcall id hid)
  rw [h1, h2]

/-- histories: a solver reused for any sequence of matrices leaves every row object allocated before the first call as it was -/
theorem caller_unmodified_history : ∀ (calls : List (List Nat)) (h : Heap) {h' : Heap} {outs : List (List (Nat × Nat))},
    calls.foldlM (fun (acc : Heap × List (List (Nat × Nat))) caller => do
        let r ← computeH .copy acc.1 caller
        pure (r.1, acc.2 ++ [r.2])) (h, []) = some (h', outs) →
    h.next ≤ h'.next ∧ ∀ id, id < h.next → h'.row id = h.row id ∧ h'.len id = h.len id := by
  intro calls h h' outs
  -- the results accumulated so far play no part: any start pair will do
  generalize hp : (h, ([] : List (List (Nat × Nat)))) = p
  replace hp : h = p.1 := by rw [← hp]
  subst hp
  induction calls generalizing p with
  | nil =>
    intro hf
    simp only [List.foldlM_nil, Option.pure_def, Option.some.injEq] at hf
    subst hf
    exact ⟨Nat.le_refl _, fun _ _ => ⟨rfl, rfl⟩⟩
  | cons c rest ih =>
    intro hf
    simp only [List.foldlM_cons, Option.bind_eq_bind] at hf
    cases hc : computeH .copy p.1 c with
    | none => simp [hc] at hf
    | some r =>
      simp only [hc, Option.bind_some, Option.pure_def] at hf
      obtain ⟨hnext, hstep⟩ := copy_extends (out := r.2) hc
      obtain ⟨hle, hrest⟩ := ih _ hf
      refine ⟨Nat.le_trans hnext hle, fun id hid => ?_⟩
      obtain ⟨a1, a2⟩ := hrest id (Nat.lt_of_lt_of_le hid hnext)
      obtain ⟨b1, b2⟩ := hstep id hid
      exact ⟨a1.trans b1, a2.trans b2⟩

/-! The variant that reuses the caller's row objects when no padding is needed is refuted: a 2×2 matrix whose first row
is changed by step 1 (row minimum subtracted). -/
def demoHeap : Heap := ⟨fun id j => if id = 0 then (if j = 0 then 3 else if j = 1 then 5 else 0) else if id = 1 then (if j = 0 then 4 else if j = 1 then 1 else 0) else 0,
  fun id => if id < 2 then 2 else 0, 2⟩

example : (computeH .reuseUnpadded demoHeap [0, 1]).map (fun r => (r.1.row 0 0, r.1.row 0 1, r.2)) = some (0, 2, [(0, 0), (1, 1)]) ∧
    (computeH .copy demoHeap [0, 1]).map (fun r => (r.1.row 0 0, r.1.row 0 1, r.2)) = some (3, 5, [(0, 0), (1, 1)]) := by
  decide +kernel

end C06
