import Mitx.Props.C03
import Mitx.Parser.LexPrint
/-! C03 from STRINGS: for expressions with plain leaves the model lexer reads the printed rendering back as the token list
    `round_trip_executable` starts from, wherever spaces are put. -/
namespace C03

/-- **String round trip.** For every expression tree with plain leaves, the TEXT of its minimal-parenthesis rendering is lexed
and parsed, by the executable functions the correspondence run drives, to a tree whose value is the textbook value of the
expression — in any operator algebra. -/
theorem string_round_trip {V : Type} (A : Alg V) (e : E) (hp : plainE e = true) :
    ∃ t, parseString (printStr (render e)) = some t ∧ evalT A t = denote A e := by
  obtain ⟨t, ht, hv⟩ := round_trip_executable A e
  exact ⟨t, by simp [parseString, lex_render e hp, ht], hv⟩

/-- **Spaces are insignificant**: two strings with the same non-space characters lex (hence parse and evaluate) alike -/
theorem spaces_insignificant (s s' : String) (h : s.toList.filter (· != ' ') = s'.toList.filter (· != ' ')) :
    parseString s = parseString s' :=
  spaces_irrelevant s s' h

/-- string round trip with spaces inserted anywhere -/
theorem string_round_trip_spaced {V : Type} (A : Alg V) (e : E) (hp : plainE e = true) (s : String)
    (hs : s.toList.filter (· != ' ') = (printStr (render e)).toList.filter (· != ' ')) :
    ∃ t, parseString s = some t ∧ evalT A t = denote A e := by
  rw [spaces_insignificant s _ hs]; exact string_round_trip A e hp

/-! non-vacuity: `-((a + 12)*f(x, 3)^2) || y1`, with and without spaces -/
open E in
example : plainE (par (neg (mul (add (var "a") (num "12" none)) (pow (call "f" (var "x") [num "3" none]) (num "2" none)))) (var "y1") []) = true ∧
    printStr (render (par (neg (mul (add (var "a") (num "12" none)) (pow (call "f" (var "x") [num "3" none]) (num "2" none)))) (var "y1") [])) = "-((a+12)*f(x,3)^2)||y1" ∧
    (parseString " - ((a + 12) * f(x, 3)^2) || y1").isSome = true := by
  decide +kernel

end C03
