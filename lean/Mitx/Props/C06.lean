import Mitx.Munkres.Rect
/-! # C06 — the assignment solver returns a complete minimum-cost matching for any matrix

The model is `Mk.compute` (`Mitx/Model/Munkres.lean`), a literal rendering of `mitxgraders/helpers/munkres.py`. -/
namespace C06
open Mk Finset

/-- Square matrices of every size, every rational entry: the solver terminates (with the model's own fuel),
    returns exactly one pair per row in row order, the columns form a permutation, and no permutation is cheaper. -/
theorem solver_square {m : List (List Rat)} {n : Nat} (h : IsSquare m n) :
    ∃ τ : Equiv.Perm (Fin n),
      compute m = some ((List.range n).map (fun i => (i, if hi : i < n then ((τ ⟨i, hi⟩ : Fin n) : Nat) else 0))) ∧
      ∀ ρ : Equiv.Perm (Fin n),
        ∑ i : Fin n, matFn m (i : Nat) ((τ i : Fin n) : Nat) ≤ ∑ i : Fin n, matFn m (i : Nat) ((ρ i : Fin n) : Nat) :=
  compute_square h

/-- **Any rectangular matrix** (`r × c`, every rational entry, ties allowed): the solver terminates with the model's own
    fuel; the returned list is a matching inside the original matrix with exactly `min r c` pairs, and no such matching is
    cheaper (a rival extends to a permutation of the zero-padded square by `Equiv.Perm.exists_extending_pair`). -/
theorem solver_rect {m : List (List Rat)} {r c : Nat} (h : IsRect m r c) :
    ∃ out, compute m = some out ∧ Matching r c out ∧ out.length = min r c ∧
      ∀ alt, Matching r c alt → alt.length = min r c → cost m out ≤ cost m alt :=
  compute_rect h

/-- the same guarantee for a reused solver object (`computeOn s m` unfolds to `compute m`: `solver_state_independent`) -/
theorem solver_rect_reused (s : St) {m : List (List Rat)} {r c : Nat} (h : IsRect m r c) :
    ∃ out, computeOn s m = some out ∧ Matching r c out ∧ out.length = min r c ∧
      ∀ alt, Matching r c alt → alt.length = min r c → cost m out ≤ cost m alt :=
  compute_rect h

/-- by construction of the model: `computeOn` overwrites every field of the state an earlier solve left behind, as
    `Munkres.compute` reassigns every attribute -/
theorem solver_state_independent (s : St) (m : List (List Rat)) : computeOn s m = compute m := rfl

/-! non-vacuity: concrete matrices meet the hypotheses; their optima by evaluation -/
example : IsSquare [[1, 2, 3], [2, 4, 6], [3, 6, 9]] 3 := ⟨by decide, rfl, by simp⟩
example : compute [[1, 2, 3], [2, 4, 6], [3, 6, 9]] = some [(0, 2), (1, 1), (2, 0)] := by decide +kernel
example : IsRect [[4, 1, 3], [2, 0, 5]] 2 3 := ⟨by decide, by decide, rfl, by simp⟩
example : compute [[4, 1, 3], [2, 0, 5]] = some [(0, 1), (1, 0)] := by decide +kernel
example : compute [[4, 2], [1, 0], [3, 5]] = some [(1, 1), (2, 0)] := by decide +kernel

end C06
