import Mitx.Props.C01
import Mitx.Props.C01Tree
import Mitx.Props.C02
import Mitx.Props.C03
import Mitx.Props.C03String
import Mitx.Props.C04
import Mitx.Props.C04Pipe
import Mitx.Props.C05
import Mitx.Props.C06
import Mitx.Props.C06Heap
import Mitx.Props.C07
import Mitx.Props.C08
import Mitx.Props.C09
import Mitx.Props.C10
import Mitx.Props.C11
import Mitx.Props.C11Defaults
import Mitx.Props.C12
import Mitx.Props.C13
import Mitx.Props.C14
import Mitx.Props.C15
import Mitx.Props.C16
import Mitx.Props.C16Shape
import Mitx.Props.C17
import Mitx.Props.C18
import Mitx.Props.C19
import Mitx.Props.C20
import Mitx.Props.C20Cross
